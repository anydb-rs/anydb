import AnyDB.Props.C08
/-!
# C08 — compressed formats: a range read over any number of pages is the slice of the stored values

`C08_pages_range`: `read_stored_pages_into` (model: `ReadPaths.pagesRead`: for every page touched, `local_from = from -. page_start`,
`local_to = min (to - page_start) values`, slices appended in page order) equals `sliceOf (pages.flatten) from to` for EVERY page
index in which every page but the last is full and no page is longer than a page (what `C07_split_full` and `C07_split_sizes`
say of every chunking; on a vector's own index it is `C03c.PagesWF`, see `C08Comp`), every page size, and every
`from < to ≤ stored length` — single-page, straddling two pages, or spanning many.
-/
namespace AnyDB.C08
open ReadPaths

/-- every page but the last holds exactly `pp` values (`C07_split_full`) -/
def Full (pages : List (List Nat)) (pp : Nat) : Prop := ∀ pi, pi + 1 < pages.length → (pages.getD pi []).length = pp

/-- the page loop from page `sp` on, `m` pages: every page contributes its own slice, both ends clamped to the page -/
def pagesFrom (pages : List (List Nat)) (pp sp m from_ to : Nat) : List Nat :=
  (List.range m).flatMap (fun k => sliceOf (pages.getD (sp + k) []) (from_ - (sp + k) * pp) (to - (sp + k) * pp))

theorem pagesRead_eq (pages : List (List Nat)) (pp from_ to : Nat) (h : from_ < to) :
    pagesRead pages pp from_ to = pagesFrom pages pp (from_ / pp) ((to - 1) / pp + 1 - from_ / pp) from_ to := by
  unfold pagesRead
  rw [if_neg (Nat.not_le.mpr h)]
  rfl

/-- a range inside a single page: one turn of the page loop -/
theorem C08_pages_single (pages : List (List Nat)) (pp from_ to : Nat) (hpp : 0 < pp) (hft : from_ < to)
    (hsame : from_ / pp = (to - 1) / pp) :
    pagesRead pages pp from_ to =
      let page := pages.getD (from_ / pp) []
      (page.drop (from_ - from_ / pp * pp)).take (min (to - from_ / pp * pp) page.length - (from_ - from_ / pp * pp)) := by
  have _ := hpp
  rw [pagesRead_eq _ _ _ _ hft, ← hsame, Nat.add_sub_cancel_left]
  exact List.append_nil _

theorem pagesFrom_add (pages : List (List Nat)) (pp sp a b from_ to : Nat) :
    pagesFrom pages pp sp (a + b) from_ to = pagesFrom pages pp sp a from_ to ++ pagesFrom pages pp (sp + a) b from_ to := by
  unfold pagesFrom
  rw [List.range_add, List.flatMap_append, List.flatMap_map]
  simp only [Nat.add_assoc]

theorem pagesFrom_nil (pages : List (List Nat)) (pp sp m from_ to : Nat)
    (h : ∀ k, k < m → sliceOf (pages.getD (sp + k) []) (from_ - (sp + k) * pp) (to - (sp + k) * pp) = []) :
    pagesFrom pages pp sp m from_ to = [] :=
  List.flatMap_eq_nil_iff.mpr fun k hk => h k (List.mem_range.mp hk)

theorem drop_pages (pages : List (List Nat)) (sp : Nat) (h : sp < pages.length) :
    pages.drop sp = pages.getD sp [] :: pages.drop (sp + 1) := by
  rw [List.drop_eq_getElem_cons h]
  congr 1
  simp [List.getD_eq_getElem?_getD, List.getElem?_eq_getElem h]

theorem pagesFrom_all (pages : List (List Nat)) (pp from_ to : Nat) (hf : Full pages pp) (m : Nat) :
    ∀ sp, sp + m = pages.length →
      pagesFrom pages pp sp m from_ to = sliceOf (pages.drop sp).flatten (from_ - sp * pp) (to - sp * pp) := by
  induction m with
  | zero =>
    intro sp h
    rw [List.drop_of_length_le (by omega)]
    exact (sliceOf_nil _ _).symm
  | succ m ih =>
    intro sp h
    rw [Nat.add_comm m 1, pagesFrom_add, ih (sp + 1) (by omega), drop_pages pages sp (by omega), List.flatten_cons, sliceOf_append]
    congr 1
    · unfold pagesFrom
      simp only [List.range_one, List.flatMap_cons, List.flatMap_nil, List.append_nil, Nat.add_zero]
    · -- the page in front is full, or it is the last one and nothing follows
      by_cases hl : sp + 1 < pages.length
      · rw [hf sp hl, Nat.sub_sub, Nat.sub_sub, ← Nat.succ_mul]
      · rw [List.drop_of_length_le (by omega)]
        simp only [List.flatten_nil, sliceOf_nil]

theorem flatten_length_le (pages : List (List Nat)) (pp : Nat) (hb : ∀ p ∈ pages, p.length ≤ pp) : pages.flatten.length ≤ pages.length * pp := by
  induction pages with
  | nil => simp
  | cons a t ih =>
    simp only [List.flatten_cons, List.length_append, List.length_cons, Nat.succ_mul]
    have := hb a (List.mem_cons_self ..)
    have := ih (fun p hp => hb p (List.mem_cons_of_mem _ hp))
    omega

theorem C08_pages_range (pages : List (List Nat)) (pp from_ to : Nat) (hpp : 0 < pp) (hf : Full pages pp)
    (hb : ∀ p ∈ pages, p.length ≤ pp) (hft : from_ < to) (hto : to ≤ pages.flatten.length) :
    pagesRead pages pp from_ to = sliceOf pages.flatten from_ to := by
  have hlen := flatten_length_le pages pp hb
  have hep : (to - 1) / pp < pages.length := Nat.div_lt_of_lt_mul (by rw [Nat.mul_comm]; omega)
  have hle : from_ / pp ≤ (to - 1) / pp := Nat.div_le_div_right (Nat.le_sub_one_of_lt hft)
  -- the loop runs over the `m` pages from page `from_ / pp` to page `(to - 1) / pp`; `r` pages follow
  obtain ⟨m, hm⟩ : ∃ m, (to - 1) / pp + 1 = from_ / pp + m := ⟨_, (Nat.add_sub_of_le (Nat.le_succ_of_le hle)).symm⟩
  obtain ⟨r, hr⟩ : ∃ r, pages.length = from_ / pp + (m + r) :=
    ⟨pages.length - ((to - 1) / pp + 1), by rw [← Nat.add_assoc, ← hm]; exact (Nat.add_sub_of_le hep).symm⟩
  have hall := pagesFrom_all pages pp from_ to hf pages.length 0 (Nat.zero_add _)
  rw [Nat.zero_mul, Nat.sub_zero, Nat.sub_zero, List.drop_zero, hr, pagesFrom_add, pagesFrom_add, Nat.zero_add] at hall
  -- the pages before and those after contribute nothing: the loop over the pages touched is the loop over all pages
  rw [pagesRead_eq _ _ _ _ hft, hm, Nat.add_sub_cancel_left, ← hall, pagesFrom_nil pages pp 0, pagesFrom_nil pages pp (from_ / pp + m),
    List.nil_append, List.append_nil]
  · -- a page behind the last one touched starts at or after `to`
    intro k _
    have h1 : to - 1 < (from_ / pp + m) * pp := by rw [← hm, Nat.mul_comm]; exact Nat.lt_mul_div_succ _ hpp
    have h2 : to ≤ (from_ / pp + m + k) * pp :=
      Nat.le_trans (Nat.le_of_pred_lt h1) (Nat.mul_le_mul_right _ (Nat.le_add_right _ _))
    exact sliceOf_reversed _ _ _ (by rw [Nat.sub_eq_zero_of_le h2]; exact Nat.zero_le _)
  · -- a page before the first one touched is full and ends at or before `from_`
    intro k hk
    have h1 : k * pp + pp ≤ from_ := Nat.succ_mul k pp ▸ (Nat.le_div_iff_mul_le hpp).mp hk
    rw [Nat.zero_add]
    exact sliceOf_beyond _ _ _ (by rw [hf k (Nat.lt_of_le_of_lt (Nat.le_trans hk hle) hep)]; exact Nat.le_sub_of_add_le' h1)

-- non-vacuity: the hypotheses hold of three pages, the last one partial
example : Full [[0, 1, 2, 3], [4, 5, 6, 7], [8, 9]] 4 ∧ (∀ p ∈ [[0, 1, 2, 3], [4, 5, 6, 7], [8, 9]], p.length ≤ 4) := by
  refine ⟨?_, by decide⟩
  intro pi h
  simp at h
  have : pi = 0 ∨ pi = 1 := by omega
  rcases this with rfl | rfl <;> rfl

end AnyDB.C08
