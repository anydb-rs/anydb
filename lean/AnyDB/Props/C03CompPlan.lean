import AnyDB.Lemmas.VecOps
/-!
# The compressed `write()` as a plan that is computed and then carried out

`writeComp` decides — from the page at the write position — where the data region is cut and which pages are laid out
there (`wplan`: the fast raw append, or the re-encoding of the kept head of that page followed by the buffer), and then
does the same thing on every path (`runPlan`).  `writeComp_cases` is the only place where `writeComp` is unfolded; what a
plan does is proved with the plan as a variable, what the two plans are is proved without the state record.
-/
namespace AnyDB.C03c
open VecM VecM.V

/-- what a compressed `write()` decides before it touches anything: the data region must reach `need`, is cut at `cut`,
the pages `tail` take the place of `pages[spi..]`, and the region then ends at `newLen` -/
structure WPlan where
  need : Nat
  cut : Nat
  newLen : Nat
  tail : List Page

/-- the general path: `v0 ++ pushed` is chunked, encoded and laid out from `cut` on -/
def planEnc (s : V) (cs : List Nat) (cut : Nat) (v0 : List Nat) : WPlan :=
  let enc := encChunks s.perPage s.sz (splitChunks ((v0 ++ s.pushed).length + 1) s.perPage (v0 ++ s.pushed)) cs
  { need := cut, cut := cut, newLen := cut + (enc.map (·.1)).foldl (· + ·) 0,
    tail := buildPages (nextStart (s.pages.take (s.storedLen / s.perPage))) enc }

def wplan (s : V) (cs : List Nat) : WPlan :=
  match s.pages[s.storedLen / s.perPage]? with
  | some page =>
    if s.storedLen % s.perPage ≠ 0 ∧ page.raw ∧ s.storedLen % s.perPage = page.values ∧
        s.storedLen % s.perPage + s.pushed.length < s.perPage then
      { need := page.stop, cut := page.start, newLen := page.stop + s.pushed.length * s.sz,
        tail := [{ start := page.start, bytes := page.bytes + s.pushed.length * s.sz,
                   values := s.storedLen % s.perPage + s.pushed.length, raw := true, content := page.content ++ s.pushed }] }
    else planEnc s cs page.start (page.content.take (s.storedLen % s.perPage))
  | none => planEnc s cs (nextStart s.pages) []

/-- the state a plan leaves just before the index flush -/
def planned (s : V) (p : WPlan) : V :=
  { s with pushed := [], dataLen := p.newLen,
           dataPages := s.dataPages.filter (fun q => q.start < p.cut) ++ p.tail,
           pages := s.pages.take (s.storedLen / s.perPage) ++ p.tail,
           changeAt := setChangedAt s.changeAt (s.storedLen / s.perPage),
           storedLen := s.storedLen + s.pushed.length }

def runPlan (s : V) (p : WPlan) : V × Out :=
  if p.need > s.dataLen then ({ s with pushed := [] }, .err .writeOutOfBounds)
  else if (planned s p).pagesFlush.2 then ((planned s p).pagesFlush.1, .okB true)
  else ((planned s p).pagesFlush.1, .err .writeOutOfBounds)

theorem writeComp_cases (s : V) (cs : List Nat) :
    (s.writeComp cs = (s.writeHeaderIfNeeded, .okB false) ∧ s.writeHeaderIfNeeded.pushed = []) ∨
    (s.writeComp cs = (s.writeHeaderIfNeeded, .err .corruptedRegion) ∧
      (s.writeHeaderIfNeeded.storedLen > pagesStoredLen s.writeHeaderIfNeeded.pages s.writeHeaderIfNeeded.perPage ∨
       s.writeHeaderIfNeeded.storedLen / s.writeHeaderIfNeeded.perPage > s.writeHeaderIfNeeded.pages.length)) ∨
    s.writeComp cs = runPlan s.writeHeaderIfNeeded (wplan s.writeHeaderIfNeeded cs) := by
  unfold writeComp
  generalize s.writeHeaderIfNeeded = t
  -- `if_pos`/`if_neg` as terms see through the `let`s; `split` on a goal of this size is very slow to check
  by_cases c1 : t.storedLen > pagesStoredLen t.pages t.perPage
  · exact .inr (.inl ⟨if_pos c1, .inl c1⟩)
  by_cases c2 : t.pushed.length = 0 ∧ t.storedLen = pagesStoredLen t.pages t.perPage ∧ t.changeAt.isNone
  · exact .inl ⟨(if_neg c1).trans (if_pos c2), List.length_eq_zero_iff.mp c2.1⟩
  by_cases c3 : t.storedLen / t.perPage > t.pages.length
  · exact .inr (.inl ⟨(if_neg c1).trans ((if_neg c2).trans (if_pos c3)), .inr c3⟩)
  refine .inr (.inr ((if_neg c1).trans ((if_neg c2).trans ((if_neg c3).trans ?_))))
  unfold wplan runPlan planned planEnc
  cases hp : t.pages[t.storedLen / t.perPage]? with
  | none => rfl
  | some page =>
    -- `writeComp` tests for a partial page and then for the rest of the fast-path condition, `wplan` for both at once
    by_cases hc : t.storedLen % t.perPage ≠ 0 ∧ page.raw = true ∧ t.storedLen % t.perPage = page.values ∧
        t.storedLen % t.perPage + t.pushed.length < t.perPage
    · simp only [if_pos hc.1, if_pos hc.2, if_pos hc]
    · by_cases hpl : t.storedLen % t.perPage ≠ 0
      · simp only [if_pos hpl, if_neg (fun h => hc ⟨hpl, h⟩), if_neg hc]
      · simp only [if_neg hpl, if_neg hc]
        -- no partial page: the kept head is `take 0`
        rw [Decidable.not_not.mp hpl]
        rfl

theorem runPlan_frame (s : V) (p : WPlan) : ∃ pu dl dp pg ca sl pd,
    (runPlan s p).1 = { s with pushed := pu, dataLen := dl, dataPages := dp, pages := pg, changeAt := ca, storedLen := sl,
                               pagesDisk := pd } := by
  obtain ⟨ca, pd, e⟩ := pagesFlush_frame (planned s p)
  unfold runPlan
  by_cases h : p.need > s.dataLen
  · rw [if_pos h]
    exact ⟨_, _, _, _, _, _, _, rfl⟩
  · rw [if_neg h]
    by_cases hf : (planned s p).pagesFlush.2 = true
    · rw [if_pos hf]
      exact ⟨_, _, _, _, _, _, _, e⟩
    · rw [if_neg hf]
      exact ⟨_, _, _, _, _, _, _, e⟩

theorem runPlan_ok (s : V) (p : WPlan) (b : Bool) (hok : (runPlan s p).2 = .okB b) :
    ∃ ca pd, (runPlan s p).1 = { planned s p with changeAt := ca, pagesDisk := pd } := by
  unfold runPlan at hok ⊢
  by_cases h : p.need > s.dataLen
  · rw [if_pos h] at hok
    cases hok
  · rw [if_neg h] at hok ⊢
    by_cases hf : (planned s p).pagesFlush.2 = true
    · rw [if_pos hf]
      exact pagesFlush_frame (planned s p)
    · rw [if_neg hf] at hok
      cases hok

/-- the frame of the compressed `write()`; `writeComp_frame` reads four of the fields it leaves alone off it -/
theorem writeComp_frame_all (s : V) (cs : List Nat) : ∃ ds hm pu dl dp pg ca sl pd,
    (s.writeComp cs).1 = { s with diskStamp := ds, hdrModified := hm, pushed := pu, dataLen := dl, dataPages := dp, pages := pg,
                                  changeAt := ca, storedLen := sl, pagesDisk := pd } := by
  obtain ⟨d, m, e⟩ := writeHeaderIfNeeded_frame s
  rcases writeComp_cases s cs with h | h | h
  · rw [h.1]; exact ⟨_, _, _, _, _, _, _, _, _, e⟩
  · rw [h.1]; exact ⟨_, _, _, _, _, _, _, _, _, e⟩
  · obtain ⟨pu, dl, dp, pg, ca, sl, pd, e2⟩ := runPlan_frame s.writeHeaderIfNeeded (wplan s.writeHeaderIfNeeded cs)
    rw [h, e2, e]; exact ⟨_, _, _, _, _, _, _, _, _, rfl⟩

theorem writeComp_frame (s : V) (cs : List Nat) :
    (s.writeComp cs).1.stamp = s.stamp ∧ (s.writeComp cs).1.changes = s.changes ∧ (s.writeComp cs).1.keep = s.keep ∧
    (s.writeComp cs).1.kind = s.kind := by
  obtain ⟨_, _, _, _, _, _, _, _, _, e⟩ := writeComp_frame_all s cs
  rw [e]; exact ⟨rfl, rfl, rfl, rfl⟩

end AnyDB.C03c
