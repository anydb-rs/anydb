import AnyDB.Lemmas.LayoutKeeps

/-!
# C02 — extents never overlap, for EVERY history (whole-state invariant of the rawdb model)

`LInv s` (`Lemmas/LayoutInv.lean`): no byte of the file belongs to two extents — region reservations, relocation
targets, holes, pending holes —, every extent has positive size, and `Layout::start_to_region` agrees with the region
slots.  Every operation of the model preserves it from ANY state that satisfies it.  What an operation does to the layout
is one of a few moves (`Mv`, `Lemmas/LayoutMoves.lean`), and every move keeps the invariant; the operations are walked
through in `Lemmas/LayoutKeeps.lean` (`step_keeps`), on their tables in `Lemmas/RawdbSteps.lean`:

* metadata-only and data-only operations leave the layout view alone (`Lemmas/LayoutOps.lean`: truncate, rename, the
  fitting write, region flush, hole punching, file growth);
* `remove` / `retain`: the extent becomes a pending hole; `flush`: pending holes are promoted, merging with their
  neighbours changes the extents and not the bytes covered (`promote_cnt`); `compact` = flush + punching;
* `write_with` beyond the reservation: the last region grows in place because `is_last_anything` means nothing is claimed
  behind it (`isLast_free`); growth into the adjacent hole takes exactly the hole's front; a relocation reserves its
  target in the best-fitting hole or at `Layout::len()` — at or beyond everything claimed (`layoutLen_ge`) — and then
  moves;
* `create_region_if_needed`: a free slot, a page from the best-fitting hole or at `Layout::len()`.

`C02_history_partial`: after EVERY sequence of operations from the empty database in which no operation panics and
that contains no `reopen`: no byte in two extents, all extents positive, everything claimed ends at or before
`Layout::len()`, two different live regions never share a byte.
`C02_history_accounted` adds the accounting half: `Acc` (`Lemmas/LayoutAcc.lean`: the claimed bytes form an initial
segment) is preserved too — every move either leaves the number of extents covering each byte alone or adds one extent
exactly on top of everything claimed (creation or relocation at `Layout::len()`, the last region growing in place) — so
after every such history EVERY byte below `Layout::len()` belongs to EXACTLY one region, reservation, free extent or pending
free extent.
`C02_history_aligned` (`Lemmas/LayoutAlign.lean`): every extent starts on a page boundary and is a whole number of pages
long — creation takes one page from an aligned hole or at the aligned `Layout::len()`, reservations double, holes are
split at aligned offsets and merged into aligned sums (`seg_al`).
The two hypotheses are lifted elsewhere: a well-formed history never panics (`C02_history`, `Props/C01Total.lean`), and
`reopen` rebuilds a layout that satisfies the invariants again (`reopen_ok`, `Lemmas/LayoutReopen.lean`), so that it may
occur wherever every live region has been written at least once (`C02_history_all`, `Props/C01All.lean`).
-/
namespace AnyDB.C02r
open Conc

theorem linv_step (s : Db) (op : Op) (h : LInv s) (hop : ∀ n, op ≠ .reopen n) :
    IsPanic (step s op).2 ∨ LInv (step s op).1 := (step_keeps s op h hop).2.imp id Keeps.li

theorem acc_step (s : Db) (op : Op) (h : LInv s) (ha : Acc s) (hop : ∀ n, op ≠ .reopen n) :
    IsPanic (step s op).2 ∨ Acc (step s op).1 := (step_keeps s op h hop).2.imp id (·.acc ha)

theorem run_keeps (s : Db) (ops : List Op) (h : LInv s) (hr : NoReopen ops) (hp : NoPanic s ops) : Keeps s (run s ops) :=
  run_invariant (I := Keeps s) (fun t op ht hop => (step_keeps t op ht.li hop).2.imp id ht.trans) s ops
    (Keeps.refl h) hr hp

theorem linv_run (s : Db) (ops : List Op) (h : LInv s) (hr : NoReopen ops) (hp : NoPanic s ops) : LInv (run s ops) :=
  (run_keeps s ops h hr hp).li

theorem acc_run (s : Db) (ops : List Op) (h : LInv s) (ha : Acc s) (hr : NoReopen ops) (hp : NoPanic s ops) : Acc (run s ops) :=
  (run_keeps s ops h hr hp).acc ha

theorem al_run (s : Db) (ops : List Op) (h : LInv s) (ha : Al s) (hr : NoReopen ops) (hp : NoPanic s ops) : Al (run s ops) :=
  (run_keeps s ops h hr hp).al ha

/-- C02 (partial: no `reopen`, no panicking operation), for every history -/
theorem C02_history_partial (ops : List Op) (hr : NoReopen ops) (hp : NoPanic Db.init ops) :
    (∀ x, cnt (claimedDb (run Db.init ops)) x ≤ 1) ∧ (∀ e ∈ claimedDb (run Db.init ops), 0 < e.2) ∧
    (∀ e ∈ claimedDb (run Db.init ops), e.1 + e.2 ≤ (run Db.init ops).layoutLen) ∧
    (∀ (i j : Nat) (a b : Slot) (x : Nat), i ≠ j → (run Db.init ops).slot? i = some a → (run Db.init ops).slot? j = some b →
        ind (extOf a) x + ind (extOf b) x ≤ 1) := by
  have h := linv_run Db.init ops linv_init hr hp
  exact ⟨h.one, h.pos, fun e he => layoutLen_ge _ h e he, fun i j a b x hij ha hb => two_slots_le_one _ h i j a b x hij ha hb⟩

/-- C02, accounting half (partial: no `reopen`, no panicking operation), for every history:
every byte below the end of the allocated area belongs to exactly one extent -/
theorem C02_history_accounted (ops : List Op) (hr : NoReopen ops) (hp : NoPanic Db.init ops) :
    ∀ x, x < (run Db.init ops).layoutLen → cnt (claimedDb (run Db.init ops)) x = 1 :=
  accounted _ (linv_run Db.init ops linv_init hr hp) (acc_run Db.init ops linv_init acc_init hr hp)

/-- C02, alignment (partial: no `reopen`, no panicking operation), for every history: every extent — region reservation,
relocation target, free extent, pending free extent — starts on a page boundary and is a whole number of pages long,
and so is `Layout::len()` -/
theorem C02_history_aligned (ops : List Op) (hr : NoReopen ops) (hp : NoPanic Db.init ops) :
    (∀ e ∈ claimedDb (run Db.init ops), e.1 % Gen.PAGE_SIZE = 0 ∧ e.2 % Gen.PAGE_SIZE = 0) ∧
    (run Db.init ops).layoutLen % Gen.PAGE_SIZE = 0 := by
  have h := linv_run Db.init ops linv_init hr hp
  have ha := al_run Db.init ops linv_init al_init hr hp
  exact ⟨ha, layoutLen_aligned _ h ha⟩

-- a history with creation, removal, flush and reuse: it has no `reopen`, and the region created last takes the extent
-- at 4096 that the removal freed (that no request of it panics, `NoPanic`, is not evaluated here)
example : NoReopen [Op.create [97], .create [98], .remove [98], .flush, .create [99]] ∧
    (run Db.init [Op.create [97], .create [98], .remove [98], .flush, .create [99]]).regions = [(0, 0), (4096, 1)] := by
  refine ⟨?_, by decide +kernel⟩
  intro op hop n
  simp only [List.mem_cons, List.not_mem_nil, or_false] at hop
  rcases hop with rfl | rfl | rfl | rfl | rfl <;> (intro h; cases h)

end AnyDB.C02r
