import AnyDB.Props.C04Comp
/-!
# C16 over whole histories (compressed formats): what the change directory holds

The last `keep` records: after one commit (`commit_dir`) and, by the arithmetic of `takeLast`, after any number of
rounds (`hist_dir`).  The history of commits that Props/C16Window.lean is built on is defined here: `hist` runs the rounds and
collects one `Entry` per commit, `Incr` says that the stamps increase.
-/
namespace AnyDB.C16w
open VecM VecM.V C03c C04c

def takeLast {α : Type} (k : Nat) (l : List α) : List α := l.drop (l.length - k)

/-- the last `k` elements are the first `k` of the reversed list; every fact about `takeLast` below is one about `take` -/
theorem takeLast_eq {α : Type} (k : Nat) (l : List α) : takeLast k l = (l.reverse.take k).reverse := by
  unfold takeLast
  rw [List.take_reverse, List.reverse_reverse]

theorem takeLast_length_le {α : Type} (k : Nat) (l : List α) : (takeLast k l).length ≤ k := by
  rw [takeLast_eq, List.length_reverse, List.length_take]
  exact Nat.min_le_left _ _

theorem takeLast_of_le {α : Type} (k : Nat) (l : List α) (h : l.length ≤ k) : takeLast k l = l := by
  rw [takeLast_eq, List.take_of_length_le (by rw [List.length_reverse]; exact h), List.reverse_reverse]

theorem takeLast_reverse {α : Type} (k : Nat) (l : List α) : takeLast k l.reverse = (l.take k).reverse := by
  rw [takeLast_eq, List.reverse_reverse]

theorem takeLast_append_one {α : Type} (k : Nat) (l : List α) (x : α) (hk : 1 ≤ k) :
    takeLast k (l ++ [x]) = takeLast (k - 1) l ++ [x] := by
  obtain ⟨j, rfl⟩ : ∃ j, k = j + 1 := ⟨k - 1, by omega⟩
  rw [takeLast_eq, takeLast_eq, List.reverse_append, List.reverse_singleton, List.singleton_append, List.take_succ_cons,
    List.reverse_cons, Nat.add_sub_cancel]

theorem takeLast_takeLast_append_gen {α : Type} (k : Nat) (X R : List α) :
    takeLast k (takeLast k X ++ R) = takeLast k (X ++ R) := by
  rw [takeLast_eq, takeLast_eq k X, takeLast_eq k (X ++ R), List.reverse_append, List.reverse_append, List.reverse_reverse,
    List.take_append, List.take_append, List.take_take, Nat.min_eq_left (Nat.sub_le _ _)]

theorem takeLast_takeLast_append {α : Type} (k : Nat) (l : List α) (x : α) (hk : 1 ≤ k) :
    takeLast k (takeLast k l ++ [x]) = takeLast k (l ++ [x]) := by
  -- holds for every `k`
  have _ := hk
  exact takeLast_takeLast_append_gen k l [x]

/-- the change directory after a successful commit of a compressed vector: records at or above the new stamp dropped,
the oldest beyond `keep - 1` pruned, the new record appended; retention and the new stamp are in place -/
theorem commit_dir (s : V) (st : Nat) (cs : List Nat) (b : Bool) (hk : s.kind = .comp) (hkeep : s.keep ≠ 0)
    (hc : (s.commit st cs).2 = .okB b) :
    (s.commit st cs).1.changes = (s.changes.filter (·.1 < st)).drop ((s.changes.filter (·.1 < st)).length - (s.keep - 1)) ++ [(st, s.serializeChanges.1)] ∧
    (s.commit st cs).1.keep = s.keep ∧ (s.commit st cs).1.stamp = st := by
  -- true whatever the write answers: these three fields are those of the state that is written
  have _ := hc
  obtain ⟨s1, ⟨hm, e1⟩, e⟩ := commit_comp_eq s st cs hk hkeep
  obtain ⟨w1, w2, w3, _⟩ := writeComp_frame s1 cs
  rw [e, e1] at *
  split <;> exact ⟨w2, w3, w1⟩

structure Entry where
  stamp : Nat
  bytes : List UInt8
  ch : Change
  before : SnapC

def Entry.pair (e : Entry) : Nat × List UInt8 := (e.stamp, e.bytes)

/-- run the rounds; returns the final state and, NEWEST first, for every commit its stamp, the bytes of its record, the
record and the snapshot from before its round (`before`: what the record leads back to) -/
def hist (p : V) : List Round → V × List Entry
  | [] => (p, [])
  | r :: t =>
    let s := r.1.foldl applyP p
    let q := hist (s.commit r.2.1 r.2.2).1 t
    (q.1, q.2 ++ [⟨r.2.1, s.serializeChanges.1, recordOfC s, ⟨p.stamp, shown p⟩⟩])

/-- the stamps of the rounds increase strictly, starting above `lo` -/
def Incr : Nat → List Round → Prop
  | _, [] => True
  | lo, r :: t => lo < r.2.1 ∧ Incr r.2.1 t

/-- **the change directory after any number of rounds**: the last `keep` records, oldest first -/
theorem hist_dir (p : V) (rs : List Round) (lo : Nat) (hb : BaseC p) (hok : RoundsOK p rs) (hin : Incr lo rs)
    (hlo : ∀ x ∈ p.changes, x.1 ≤ lo) (hlen : p.changes.length ≤ p.keep) :
    (hist p rs).1.changes = takeLast p.keep (p.changes ++ ((hist p rs).2.map Entry.pair).reverse) ∧ (hist p rs).1.keep = p.keep := by
  induction rs generalizing p lo with
  | nil =>
    simp only [hist, List.map_nil, List.reverse_nil, List.append_nil]
    exact ⟨(takeLast_of_le _ _ hlen).symm, trivial⟩
  | cons r t ih =>
    obtain ⟨hkeep, hrec, hrest⟩ := hok
    obtain ⟨hlt, hin'⟩ := hin
    obtain ⟨hsince, hi, hsy, e2, e1⟩ := since_edits p r.1 hb
    obtain ⟨⟨b, hcb⟩, _, hbc, _⟩ :=
      commit_facts p (r.1.foldl applyP p) r.2.1 r.2.2 hb.inv hsince hi hsy hkeep hrec
    obtain ⟨d1, d2, _⟩ := commit_dir (r.1.foldl applyP p) r.2.1 r.2.2 b hsince.kind hkeep hcb
    have hk1 : 1 ≤ p.keep := Nat.pos_of_ne_zero (e2 ▸ hkeep)
    have hfilter : (r.1.foldl applyP p).changes.filter (·.1 < r.2.1) = p.changes := by
      rw [e1, List.filter_eq_self]
      intro x hx
      exact decide_eq_true (Nat.lt_of_le_of_lt (hlo x hx) hlt)
    have hc : ((r.1.foldl applyP p).commit r.2.1 r.2.2).1.changes = takeLast p.keep (p.changes ++ [(r.2.1, (r.1.foldl applyP p).serializeChanges.1)]) := by
      rw [d1, hfilter, e2, takeLast_append_one _ _ _ hk1]; rfl
    have hkc : ((r.1.foldl applyP p).commit r.2.1 r.2.2).1.keep = p.keep := by rw [d2, e2]
    obtain ⟨i1, i2⟩ := ih _ r.2.1 hbc hrest hin'
      (by
        intro x hx
        rw [hc] at hx
        rcases List.mem_append.mp (List.mem_of_mem_drop hx) with h | h
        · exact Nat.le_trans (hlo x h) (Nat.le_of_lt hlt)
        · rw [List.mem_singleton.mp h]
          exact Nat.le_refl _)
      (by rw [hc, hkc]; exact takeLast_length_le _ _)
    simp only [hist]
    refine ⟨?_, by rw [i2, hkc]⟩
    -- that this commit pruned to the last `keep` changes nothing of the last `keep` after the later ones
    rw [i1, hkc, hc, takeLast_takeLast_append_gen]
    simp only [List.map_append, List.map_cons, List.map_nil, List.reverse_append, List.reverse_cons, List.reverse_nil, List.nil_append,
      List.singleton_append, List.append_assoc]
    rfl

end AnyDB.C16w
