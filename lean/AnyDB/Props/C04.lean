import AnyDB.Lemmas.VecOps

/-!
# C04 — rollback restores exactly the previously committed state, repeatedly

Model: `commit` (= `stamped_write_with_changes`), `rollback`, `undo`
(= `deserialize_then_undo_changes`), `applyRollback`, `rollbackBefore`, `saveRollbackState` of
`AnyDB/Model/Vec.lean`.  No theorem speaks of `rollbackBefore` (the loop over `rollback` down to a stamp) or of
`saveRollbackState` (the baseline it takes at its end): those two are covered by the correspondence only.

The model mirrors the repaired code (three `fix:` commits, see known_findings.json): `applyRollback` re-bases the
previous stored length, also on a bare `rollback()` (F19); the compressed undo is re-based on the current logical
contents and does not assume that the disk agrees with the rolled-back state (F4); the raw `write()` first extends the
region after a rolled-back truncation (F5, `wrExtend`).

Proved here, for all states and all records that parse (`C04_comp_undo_logical` under three hypotheses: `hreal` and
`hreal2` hold under the invariant `CInv`, see `shows_of_cinv`, Props/C04Comp.lean; `hts` holds for a record that is
faithful for what the state shows, `FaithfulC.ts`):

* `C04_baseline`        — `applyRollback`, the step of every undo that restores stamp, stored length and buffer, leaves
                           the baseline of the next change record: `prevStoredLen = storedLen`, `prevPushed = pushed`,
                           stamp = recorded stamp
                           (this is what makes "as if Sk-1 had just been committed" true for the next commit);
* `C04_comp_undo_logical` — compressed formats: whatever mixture of disk and buffer currently holds the
                           logical contents `L`, undoing a record (truncation point `ts`, truncated values
                           `tv`, previous buffer `pp`) yields exactly `L.take ts ++ tv ++ pp` — in
                           particular a second, third, … consecutive undo composes correctly;
* `C04_comp_undo_stored_ok` — and never leaves the logical stored length above what is on disk
                           (so the next write cannot fail with CorruptedRegion);
* `C04_rollback_uses_current_stamp` — `rollback` reads the record filed under the CURRENT stamp only.

The byte-level round trip `parseChange (serializeChanges s) = fields of s` is `C04_record_roundtrip`
(Props/C04Record.lean) and `C04_record_roundtrip_comp` (Props/C04Comp.lean); whole commit histories are
`C04_commits_then_rollbacks_raw` (Props/C04Multi.lean) and `C04_commits_then_rollbacks_comp` (Props/C04Comp.lean),
and the correspondence validates them against the stack-of-committed-states oracle (all 14 format×type
combinations, retention 1,2,3,10).
-/
namespace AnyDB.C04
open VecM VecM.V

theorem C04_baseline (s : V) (stamp sl : Nat) (p : List Nat) :
    (s.applyRollback stamp sl p).prevStoredLen = (s.applyRollback stamp sl p).storedLen ∧
    (s.applyRollback stamp sl p).prevPushed = (s.applyRollback stamp sl p).pushed ∧
    (s.applyRollback stamp sl p).stamp = stamp ∧
    (s.applyRollback stamp sl p).storedLen = sl ∧ (s.applyRollback stamp sl p).pushed = p := by
  rw [applyRollback_eq]
  exact ⟨rfl, rfl, rfl, rfl, rfl⟩

/-- logical contents of a compressed vector -/
def logical (s : V) : List Nat := (pagesValues s.pages).take s.storedLen ++ s.pushed

/-- a prefix of `a.take n ++ b`, with the clamps of the compressed undo written out -/
theorem take_append_take (a b : List Nat) (n k : Nat) (hn : n ≤ a.length) (hk : k ≤ n + b.length) :
    a.take (min (min k n) a.length) ++ b.take (min (k - min (min k n) a.length) b.length) = (a.take n ++ b).take k := by
  have e : min (min k n) a.length = min k n := Nat.min_eq_left (Nat.le_trans (Nat.min_le_right ..) hn)
  rw [List.take_append, List.take_take, List.length_take_of_le hn, e]
  rcases Nat.le_total k n with h | h
  · rw [Nat.min_eq_left h, Nat.sub_self, Nat.sub_eq_zero_of_le h, Nat.zero_min]
  · rw [Nat.min_eq_right h, Nat.min_eq_left (Nat.sub_le_of_le_add (Nat.add_comm .. ▸ hk))]

theorem undo_comp (s : V) (bytes : List UInt8) (ch : Change) (hk : s.kind = .comp) (hp : parseChange s.kind s.sz bytes = .ok ch) :
    s.undo bytes =
      ({ s with stamp := ch.prevStamp, hdrModified := (if s.stamp = ch.prevStamp then s.hdrModified else true),
                storedLen := min (min ch.truncatedStart s.storedLen) s.realStoredLen,
                prevStoredLen := min (min ch.truncatedStart s.storedLen) s.realStoredLen,
                pushed := s.pushed.take (min (ch.truncatedStart - min (min ch.truncatedStart s.storedLen) s.realStoredLen) s.pushed.length)
                  ++ ch.truncatedValues ++ ch.prevPushed,
                prevPushed := s.pushed.take (min (ch.truncatedStart - min (min ch.truncatedStart s.storedLen) s.realStoredLen) s.pushed.length)
                  ++ ch.truncatedValues ++ ch.prevPushed }, .ok) := by
  unfold V.undo
  rw [hp]
  simp only []
  split
  · rw [applyRollback_eq]
  · next h => exact absurd (hk.symm.trans h) nofun

theorem C04_comp_undo_logical (s : V) (bytes : List UInt8) (ch : Change)
    (hk : s.kind = .comp) (hp : parseChange s.kind s.sz bytes = .ok ch)
    (hreal : s.storedLen ≤ (pagesValues s.pages).length)
    (hreal2 : s.realStoredLen = (pagesValues s.pages).length)
    (hts : ch.truncatedStart ≤ s.storedLen + s.pushed.length) :
    (s.undo bytes).2 = .ok ∧
    logical (s.undo bytes).1 = (logical s).take ch.truncatedStart ++ ch.truncatedValues ++ ch.prevPushed ∧
    (s.undo bytes).1.stamp = ch.prevStamp := by
  rw [undo_comp s bytes ch hk hp]
  refine ⟨rfl, ?_, rfl⟩
  show (pagesValues s.pages).take _ ++ (_ ++ ch.truncatedValues ++ ch.prevPushed) = _
  rw [hreal2, ← List.append_assoc, ← List.append_assoc, take_append_take _ _ _ _ hreal hts]
  rfl

theorem C04_comp_undo_stored_ok (s : V) (bytes : List UInt8) (ch : Change)
    (hk : s.kind = .comp) (hp : parseChange s.kind s.sz bytes = .ok ch) :
    (s.undo bytes).1.storedLen ≤ s.realStoredLen ∧ (s.undo bytes).1.storedLen ≤ s.storedLen := by
  rw [undo_comp s bytes ch hk hp]
  exact ⟨Nat.min_le_right .., Nat.le_trans (Nat.min_le_left ..) (Nat.min_le_right ..)⟩

theorem C04_rollback_uses_current_stamp (s : V) (st : Nat) (bytes : List UInt8)
    (h : s.changes.find? (·.1 == s.stamp) = some (st, bytes)) : s.rollback = s.undo bytes ∧ st = s.stamp := by
  unfold V.rollback
  rw [h]
  refine ⟨rfl, ?_⟩
  have := List.find?_some h
  simpa using this

/-- non-vacuity: two consecutive undos across a truncating commit (the F4 history) on the model -/
def exA : V :=
  { V.init .comp 8 3 with
    stamp := 3, storedLen := 2, prevStoredLen := 2,
    pages := [{ start := 32, bytes := 16, values := 2, raw := true, content := [0, 200] }] }
/-- record of commit 3 (truncate 1, push 200 from [0,1,2,3,4,100]) and of commit 2 (truncate 5, push 100 from [0..6)) -/
def rec3 : List UInt8 := u64b 2 ++ u64b 6 ++ u64b 1 ++ u64b 5 ++ encVals 8 [1, 2, 3, 4, 100] ++ u64b 0 ++ u64b 1 ++ encVals 8 [200]
def rec2 : List UInt8 := u64b 1 ++ u64b 6 ++ u64b 5 ++ u64b 1 ++ encVals 8 [5] ++ u64b 0 ++ u64b 1 ++ encVals 8 [100]
example : logical ((exA.undo rec3).1.undo rec2).1 = [0, 1, 2, 3, 4, 5] := by decide +kernel

end AnyDB.C04
