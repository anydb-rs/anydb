import AnyDB.Props.C15
/-!
# C15 — range reads of the windowed delta operators equal the formula, for every range

`C15_chg_range` (`DeltaChange`: value − value at the window start) and `C15_delta_range` (`DeltaSub`: value − value before the
window start): `bulk_try_fold` — one `collect_range` of the source from the earliest lookback of the range, then slot arithmetic
`source_data[i - read_from]`, `source_data[ago - read_from]` — returns exactly the formula at every index of
`[from, min(to, len, |starts|))`, for every source, every range and every window-start mapping in which each window starts at or
before its index and no lookback of the range lies before `read_from`.  The formula is written out on the right-hand side of each
statement; neither mentions `chgFormula` / `deltaFormula` of the model, and no theorem relates the two.  The hypothesis `hw` says
the condition on lookbacks with the model's own `read_from` expression (`min` of the first index's lookback and `from`); monotone
window starts imply it, but monotonicity is not a hypothesis of either theorem and the implication is not proved.
-/
namespace AnyDB.C15
open AnyDB Lazy

theorem C15_chg_range (s starts : List Nat) (from_ to : Nat)
    (hw : ∀ i, from_ ≤ i → i < min (min to s.length) starts.length →
      min (starts.getD from_ 0) from_ ≤ starts.getD i 0 ∧ starts.getD i 0 ≤ i) :
    chgRange s starts from_ to =
      .ok ((List.range (min (min to s.length) starts.length - from_)).map (fun k => s.getD (from_ + k) 0 - s.getD (starts.getD (from_ + k) 0) 0)) := by
  unfold chgRange
  generalize hto : min (min to s.length) starts.length = t at hw
  have ht : t ≤ s.length := by omega
  clear hto
  by_cases hge : from_ ≥ t
  · rw [if_pos hge, Nat.sub_eq_zero_of_le hge]
    rfl
  · rw [if_neg hge]
    apply fold_range_ok
    intro k l hk
    obtain ⟨w1, w2⟩ := hw (from_ + k) (by omega) (by omega)
    simp only
    rw [collectRange_get s _ t (from_ + k) (by omega) (by omega) ht, if_neg (by omega),
      collectRange_get s _ t (starts.getD (from_ + k) 0) w1 (by omega) ht]
    simp only
    rw [if_neg (by omega)]

theorem C15_delta_range (s starts : List Nat) (from_ to : Nat)
    (hw : ∀ i, from_ ≤ i → i < min (min to s.length) starts.length →
      starts.getD i 0 ≤ i ∧ (starts.getD i 0 ≠ 0 →
        min (if starts.getD from_ 0 = 0 then 0 else starts.getD from_ 0 - 1) from_ ≤ starts.getD i 0 - 1)) :
    deltaRange s starts from_ to =
      .ok ((List.range (min (min to s.length) starts.length - from_)).map (fun k =>
        s.getD (from_ + k) 0 - (if starts.getD (from_ + k) 0 = 0 then 0 else s.getD (starts.getD (from_ + k) 0 - 1) 0))) := by
  unfold deltaRange
  simp only []
  generalize hto : min (min to s.length) starts.length = t at hw
  have ht : t ≤ s.length := by omega
  clear hto
  generalize hrf : min (if starts.getD from_ 0 = 0 then 0 else starts.getD from_ 0 - 1) from_ = rf at hw
  have hrfle : rf ≤ from_ := by omega
  clear hrf
  by_cases hge : from_ ≥ t
  · rw [if_pos hge, Nat.sub_eq_zero_of_le hge]
    rfl
  · rw [if_neg hge]
    apply fold_range_ok
    intro k l hk
    obtain ⟨w1, w2⟩ := hw (from_ + k) (by omega) (by omega)
    rw [collectRange_get s rf t (from_ + k) (by omega) (by omega) ht]
    by_cases h0 : starts.getD (from_ + k) 0 = 0
    · simp only [h0, if_true]
      rw [if_neg (by omega)]
    · have w2' := w2 h0
      simp only [h0, if_false]
      rw [if_neg (by omega), collectRange_get s rf t _ w2' (by omega) ht]
      simp only
      rw [if_neg (by omega)]

end AnyDB.C15
