import AnyDB.Lemmas.RawdbSteps

/-!
# C13 — an operation that reports an error has no effect (rawdb part)

`refused k` are the error kinds the property lists for rawdb.  What is proved is equality of the
*entire* model state — layout, slot table, metadata file image, data bytes, dirty bounds and the
event log — which is stronger than "observable state and the outcome of every later operation":
since `step` is a function of the state, every continuation behaves identically.

History: the pinned tree violated this for `remove` of a region with a live extra handle (the
layout had already dropped the region when `RegionStillReferenced` was returned — finding F1).
It was repaired by a `fix:` commit (reference count tested first); the model mirrors the repaired
code and the statement below is the full one.

Per operation, that an error answer leaves the state alone (of `write_with`, one that is not internal; of `removeId`, the one for
an absent name) and when exactly each refusal is given is read off the tables in `Lemmas/RawdbSteps.lean` (`Db.*_err_unchanged`,
`Db.*_refused_iff`); here `C13_rawdb`, for the requests addressed by name.
-/

namespace AnyDB.C13

def refused : ErrKind → Prop
  | .writeOutOfBounds | .truncateInvalid | .regionAlreadyExists | .regionNotFound
  | .regionStillReferenced => True
  | _ => False

instance : DecidablePred refused := fun k => by cases k <;> simp [refused] <;> infer_instance

/-- an error answer of a request addressed by name leaves the state alone, provided the call on the slot does
    (requests that can be refused by name lookup alone are ordinary inputs: the harness answers
    `noSuchRegion` without calling anything — nothing to prove there) -/
theorem withRegion_unchanged (s : Db) (id : RegionId) (f : Nat → Db × Out) (k : ErrKind)
    (hf : ∀ i, (f i).2 = .err k → (f i).1 = s) : (s.withRegion id f).2 = .err k → (s.withRegion id f).1 = s :=
  Db.withRegion_cases (P := fun r => r.2 = .err k → r.1 = s) s id f (fun _ _ => rfl) (fun i _ => hf i)

/-- a write that answers with one of the listed refusals was refused before anything happened: the only other errors
    of `write_with` are internal -/
theorem writeWith_refused (s : Db) (idx : Nat) (d : List UInt8) (a : Option Nat) (t : Bool) (k : ErrKind) (hk : refused k)
    (h : (s.writeWith idx d a t).2 = .err k) : (s.writeWith idx d a t).1 = s :=
  Db.writeWith_err_unchanged s idx d a t k (fun hi => by rcases hi with rfl | rfl | rfl | rfl | rfl <;> exact hk) h

/-- removal of an absent name, and removal while another handle is alive -/
theorem C13_remove (s : Db) (id : RegionId) (held : Bool) (k : ErrKind) (hk : refused k) :
    (s.removeId id held).2 = .err k → (s.removeId id held).1 = s := by
  refine Db.removeId_cases (P := fun r => r.2 = .err k → r.1 = s) s id held (fun _ _ => rfl) (fun idx _ h => ?_)
  rcases Db.remove_spec (pair_of_snd h) with ⟨_, e, _⟩ | ⟨_, _, ⟨_, e, _⟩ | ⟨_, _, _, e⟩ | ⟨_, _, e, _⟩⟩
  · exact e
  · exact e
  · cases e; exact absurd hk (by simp [refused])
  · cases e

/-- the property, for the requests `hop` admits (writes, truncate, rename, the two removals, and the two length requests, which
    never answer with an error) and every refusal kind the property lists: the answer is a refusal ⇒ the state is untouched.
    `create`, `retain`, `flush`, `regionFlush`, `compact` and `reopen` are not covered. -/
theorem C13_rawdb (s : Db) (op : Op) (k : ErrKind) (hk : refused k)
    (hop : match op with | .retain _ | .compact | .flush | .reopen _ | .regionFlush _ | .create _ => False | _ => True)
    (h : (step s op).2 = .err k) : (step s op).1 = s := by
  cases op with
  | write id d => exact withRegion_unchanged s id _ k (fun i => writeWith_refused s i d none false k hk) h
  | writeAt id a d => exact withRegion_unchanged s id _ k (fun i => writeWith_refused s i d (some a) false k hk) h
  | truncateWrite id a d => exact withRegion_unchanged s id _ k (fun i => writeWith_refused s i d (some a) true k hk) h
  | truncate id n => exact withRegion_unchanged s id _ k (fun i => Db.truncate_err_unchanged s i n k) h
  | rename id nid => exact withRegion_unchanged s id _ k (fun i => Db.rename_err_unchanged s i nid k) h
  | remove id => exact C13_remove s id false k hk h
  | removeHeld id => exact C13_remove s id true k hk h
  | setMinLen n => cases h
  | setMinRegions n => cases h
  | create _ | retain _ | flush | regionFlush _ | compact | reopen _ => exact hop.elim

/-- non-vacuity: each listed refusal is produced by the model.  The state is a literal (two live
    one-page regions `a` (3 bytes) and `b`), not a run from `Db.init`: a history with a data write grows the
    file to 1 MiB, and the kernel would have to build that image (histories without one do evaluate:
    `Props/C02Run.lean`, `Props/C01Run.lean`).  That such states are *reached* and that the real code refuses
    the same requests is shown by the correspondence run (outcome distribution in the evidence). -/
def exState : Db :=
  { fileLen := 0, mem := Mem.empty,
    slots := [some { md := { start := 0, len := 3, reserved := 4096, id := [97] }, st := .needsFlush, dmin := 0, dmax := 3 },
              some { md := { start := 4096, len := 0, reserved := 4096, id := [98] }, st := .needsWrite, dmin := USIZE_MAX, dmax := 0 }],
    rfile := [some { start := 0, len := 3, reserved := 4096, id := [97] }, none],
    regions := [(0, 0), (4096, 1)], holes := [], reserved := [], pending := [], log := [] }

example :
    (step exState (.writeAt [97] 4 [9])).2 = .err .writeOutOfBounds ∧
    (step exState (.truncate [97] 4)).2 = .err .truncateInvalid ∧
    (step exState (.rename [97] [98])).2 = .err .regionAlreadyExists ∧
    (step exState (.remove [122])).2 = .err .regionNotFound ∧
    (step exState (.removeHeld [97])).2 = .err .regionStillReferenced := by
  decide

end AnyDB.C13
