import AnyDB.Props.C03Comp
import AnyDB.Props.C08Pages
/-!
# C08 for compressed vectors in every reachable state

`C08_comp_history`: after EVERY history of pushes, truncations and writes on a compressed vector (any compressor answers),
the page loop of `read_stored_pages_into` over the vector's own page index returns, for every range inside the stored part,
exactly the slice of the reference list — the hypothesis of `C08_pages_range` (all pages but the last full, none over-full)
is the invariant `CInv` that `C03Comp` proves for every reachable state.
-/
namespace AnyDB.C08
open VecM VecM.V ReadPaths C03c

theorem full_of_pagesWF (pp : Nat) (pages : List Page) (h : PagesWF pp pages) :
    Full (pages.map (·.content)) pp ∧ ∀ p ∈ pages.map (·.content), p.length ≤ pp := by
  constructor
  · intro pi hpi
    rw [List.length_map] at hpi
    have hlt : pi < pages.length := by omega
    have hg : pages[pi]? = some pages[pi] := List.getElem?_eq_getElem hlt
    obtain ⟨g1, _, g3⟩ := wf_get pp pages pi _ h hg
    rw [List.getD_eq_getElem?_getD, List.getElem?_map, hg]
    simp only [Option.map_some, Option.getD_some]
    rw [g1, g3 hpi]
  · intro c hc
    obtain ⟨p, hp, rfl⟩ := List.mem_map.mp hc
    obtain ⟨i, hg⟩ := List.getElem?_of_mem hp
    obtain ⟨g1, g2, _⟩ := wf_get pp pages i p h hg
    rw [g1]; exact g2

theorem slice_shown (s : V) (h : CInv s) (from_ to : Nat) (hto : to ≤ s.storedLen) :
    sliceOf (pagesValues s.pages) from_ to = sliceOf (shown s) from_ to := by
  rw [sliceOf_eq, sliceOf_eq, shown_take s h.stored to hto]

theorem C08_comp_history (es : List CEdit) (sz keep : Nat) (h1 : 0 < sz) (h2 : sz ≤ MAX_PAGE) (from_ to : Nat) (hft : from_ < to)
    (hto : to ≤ (runC (V.init .comp sz keep) es).1.storedLen) :
    pagesRead ((runC (V.init .comp sz keep) es).1.pages.map (·.content)) (runC (V.init .comp sz keep) es).1.perPage from_ to
      = sliceOf (es.foldl refC []) from_ to := by
  obtain ⟨r1, _, r3, _⟩ := run_init es sz keep h1 h2
  obtain ⟨f1, f2⟩ := full_of_pagesWF _ _ r3.wf
  -- the concatenated page contents are `pagesValues`
  rw [C08_pages_range _ _ _ _ r3.pp f1 f2 hft (by rw [← List.flatMap_def]; exact Nat.le_trans hto r3.stored), ← List.flatMap_def]
  exact (slice_shown _ r3 _ _ hto).trans (congrArg (sliceOf · from_ to) r1)

end AnyDB.C08
