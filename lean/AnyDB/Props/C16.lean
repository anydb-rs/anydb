import AnyDB.Lemmas.VecOps

/-!
# C16 — rollback is bounded by retention and refuses rather than guesses

Model: the change directory of `AnyDB/Model/Vec.lean` (`saveChangeFile`, `rollback`, `undo`,
`parseChange`, `rollbackBefore`).  No theorem speaks of `rollbackBefore` (the loop over `rollback`): it is covered by the
correspondence only.

Proved here (all states, all byte strings):

* `C16_prune_count`      — after a commit with retention `k ≥ 1` the directory holds at most `k` records;
* `C16_prune_future`     — and none with a stamp at or above the new one except the new record itself
                            (records of an abandoned future are dropped before they can be applied);
* `C16_prune_newest`     — the new record is there, and every other record kept was there before;
* `C16_missing_refused`  — a rollback whose record is missing fails and leaves the ENTIRE state unchanged;
* `C16_unparsable_refused` — a rollback whose record does not parse (truncated at ANY byte offset,
                            count fields that overflow or exceed the input) fails and leaves the
                            entire state unchanged — `parseChange` is total and `undo` touches the
                            state only after a successful parse;
* `C16_parse_short`      — a record shorter than its first 8-byte field is rejected;
* `C16_count_guard`      — a count field that promises more values than bytes remain is rejected
                            (no allocation beyond the input: `readValues` checks before it reads).

The model mirrors the repaired code: `parseChange` refuses a record whose three redundant length fields
disagree (`fix:` commit for F11: `prev_stored_len` was not validated against anything, so a record with
that field overwritten parsed, the rollback installed that length and the next read left the mapping);
`C16_prevStoredLen_checked` is the model's side.
-/
namespace AnyDB.C16
open VecM VecM.V

theorem C16_prune_count (s : V) (st : Nat) (d : List UInt8) (hk : 1 ≤ s.keep) :
    (s.saveChangeFile st d).changes.length ≤ s.keep := by
  rw [saveChangeFile_eq]
  unfold pruned
  simp only [List.length_append, List.length_drop, List.length_singleton]
  omega

theorem C16_prune_future (s : V) (st : Nat) (d : List UInt8) :
    ∀ c ∈ (s.saveChangeFile st d).changes, c.1 < st ∨ c = (st, d) := by
  rw [saveChangeFile_eq]
  intro c hc
  exact (mem_pruned s st d c hc).imp_left (·.2)

theorem C16_prune_newest (s : V) (st : Nat) (d : List UInt8) :
    (st, d) ∈ (s.saveChangeFile st d).changes ∧
    ∀ c ∈ (s.saveChangeFile st d).changes, c = (st, d) ∨ c ∈ s.changes := by
  rw [saveChangeFile_eq]
  refine ⟨List.mem_of_find?_eq_some (find_pruned s st d), fun c hc => ?_⟩
  exact (mem_pruned s st d c hc).symm.imp_right (·.1)

theorem C16_missing_refused (s : V) (h : s.changes.find? (·.1 == s.stamp) = none) :
    s.rollback = (s, .err .io) := by
  unfold V.rollback; rw [h]

theorem C16_unparsable_refused (s : V) (bytes : List UInt8) (e : EK)
    (h : parseChange s.kind s.sz bytes = .error e) : s.undo bytes = (s, .err e) :=
  undo_refused s bytes e h

theorem readU64_short (c : Cur) (h : c.bytes.length < c.pos + 8) (hp : c.pos + 8 < U64) :
    c.readU64 = .error .wrongLength := by
  unfold Cur.readU64 Cur.check
  have h1 : ¬ c.pos + 8 ≥ U64 := by omega
  have h2 : c.pos + 8 > c.bytes.length := by omega
  simp [h1, h2]

theorem C16_parse_short (k : Kind) (sz : Nat) (bytes : List UInt8) (h : bytes.length < 8) :
    parseChange k sz bytes = .error .wrongLength := by
  simp only [parseChange, readU64_short { bytes := bytes, pos := 0 } (by simpa using h) (by simp [U64])]

theorem C16_count_guard (c : Cur) (count sz : Nat) (h : c.pos + sz * count > c.bytes.length) :
    ∃ e, c.readValues count sz = .error e := by
  unfold Cur.readValues Cur.check
  by_cases h1 : sz * count ≥ U64
  · exact ⟨.overflow, by simp [h1]⟩
  · simp only [h1, if_false]
    by_cases h2 : c.pos + sz * count ≥ U64
    · exact ⟨.overflow, by simp [h2]⟩
    · exact ⟨.wrongLength, by simp [h2, h]⟩

/-- a compressed vector with two stored elements, one raw page -/
def exS : V :=
  { V.init .comp 8 3 with
    storedLen := 2, prevStoredLen := 0, stamp := 1,
    pages := [{ start := 32, bytes := 16, values := 2, raw := true, content := [5, 6] }] }

/-- F11 (repaired by a `fix:` commit): overwriting `prev_stored_len` (bytes 8..16) of a valid record
    is now detected — the length fields of a record are redundant and must agree -/
theorem C16_prevStoredLen_checked :
    (match parseChange .comp 8 (patchBytes (exS.serializeChanges).1 8 (u64b 100)) with
     | .error .wrongLength => true
     | _ => false) = true := by
  decide +kernel

/-- non-vacuity of the retention theorems: k = 2, three commits -/
def exR : V := { V.init .raw 8 2 with changes := [(1, []), (2, [])] }
example : (exR.saveChangeFile 3 [7]).changes = [(2, []), (3, [7])] := by decide

end AnyDB.C16
