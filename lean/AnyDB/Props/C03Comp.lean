import AnyDB.Props.C03CompWrite
/-!
# C03 / C07 as a refinement — compressed formats, every plain history

`C03_refinement_comp`: for EVERY sequence of pushes, truncations and `write()`s — with ANY answers of the
compressor about the size of each full page — applied by the model's own functions to an empty compressed
vector, what the vector shows (`shown`: the first `stored_len` decoded values, then the pushed ones; it is
what `items` returns, `items_eq_shown`) equals the same sequence folded over a plain list: the reference vector
of the property.  `write()` is lossless in every state of the invariant (`write_refines`: the fast raw append,
the re-encoding of a partial page and the fresh-pages path all decode to the old stored values followed by the
pushed ones, and leave every page but the last full), and it cannot fail (`writeComp_total`): the page run stays
gap-free from the header and inside the data region, and the index region keeps one entry per page, so neither
`CorruptedRegion` nor `WriteOutOfBounds` can be answered.  The only assumption is the compressor's own round
trip (a page's `content` is what decoding its bytes returns), which the correspondence samples.

Commits and rollbacks on compressed vectors are `Props/C04Comp.lean`'s; reset and re-import are not covered.
-/
namespace AnyDB.C03c
open VecM VecM.V

theorem shown_length (s : V) (h : CInv s) : (shown s).length = s.len := shown_len s h.stored

/-- `shown` is what the model's `items` (the harness's `collect`) returns, and no read leaves the pages -/
theorem items_eq_shown (s : V) (h : CInv s) : s.items = ((shown s).map some, false) := by
  rw [items_comp s h.kind, Nat.sub_eq_zero_of_le h.stored, decide_eq_false (Nat.not_lt.mpr h.stored), List.replicate_zero,
    List.append_nil]
  rfl

theorem push_refines (s : V) (v : Nat) (h : CInv s) (hs : CSync s) :
    shown (s.push v) = shown s ++ [v] ∧ CInv (s.push v) ∧ CSync (s.push v) := by
  exact ⟨(List.append_assoc _ _ _).symm, h.edited (edited_push s v), hs.edited (edited_push s v)⟩

theorem truncate_refines (s : V) (n : Nat) (h : CInv s) (hs : CSync s) :
    shown (s.truncate n) = (shown s).take n ∧ CInv (s.truncate n) ∧ CSync (s.truncate n) := by
  refine ⟨?_, h.edited (edited_truncate s n), hs.edited (edited_truncate s n)⟩
  rw [truncate_comp s n h.kind]
  show (pagesValues s.pages).take (min n s.storedLen) ++ s.pushed.take (n - s.storedLen)
    = ((pagesValues s.pages).take s.storedLen ++ s.pushed).take n
  rw [List.take_append, List.take_take, List.length_take_of_le h.stored]

inductive CEdit
  | push (v : Nat) | truncate (n : Nat) | write (cs : List Nat)
deriving Repr

/-- the edits on the vector: the model's own request handler -/
def applyC (s : V) (e : CEdit) : V × Out :=
  match e with
  | .push v => step s (.push v)
  | .truncate n => step s (.truncate n)
  | .write cs => step s (.write cs)

/-- the same edits on a plain list: the reference vector -/
def refC (l : List Nat) : CEdit → List Nat
  | .push v => l ++ [v]
  | .truncate n => l.take n
  | .write _ => l

/-- the answers with which a push, a truncation or a write is not refused -/
def Accepted : Out → Prop
  | .ok => True
  | .okB _ => True
  | _ => False

theorem edit_refines (s : V) (e : CEdit) (h : CInv s) (hs : CSync s) :
    Accepted (applyC s e).2 ∧ shown (applyC s e).1 = refC (shown s) e ∧ CInv (applyC s e).1 ∧ CSync (applyC s e).1 := by
  cases e with
  | push v => exact ⟨trivial, push_refines s v h hs⟩
  | truncate n => exact ⟨trivial, truncate_refines s n h hs⟩
  | write cs =>
    obtain ⟨⟨b, hb⟩, r⟩ := write_total s cs h hs
    have e1 : applyC s (.write cs) = s.writeComp cs := write_comp s cs h.kind
    rw [e1]
    exact ⟨by rw [hb]; trivial, r⟩

theorem cinv_init (sz keep : Nat) (h1 : 0 < sz) (h2 : sz ≤ MAX_PAGE) : CInv (V.init .comp sz keep) ∧ CSync (V.init .comp sz keep) := by
  exact ⟨⟨rfl, Nat.div_pos h2 h1, trivial, Nat.zero_le _⟩, ⟨trivial, Nat.le_refl _, rfl, rfl⟩⟩

/-- the state and the answers of a whole history -/
def runC (s : V) : List CEdit → V × List Out
  | [] => (s, [])
  | e :: t => let r := applyC s e; let q := runC r.1 t; (q.1, r.2 :: q.2)

theorem run_refines (s : V) (es : List CEdit) (h : CInv s) (hs : CSync s) :
    shown (runC s es).1 = es.foldl refC (shown s) ∧ (∀ o ∈ (runC s es).2, Accepted o) ∧ CInv (runC s es).1 ∧ CSync (runC s es).1 := by
  induction es generalizing s with
  | nil => exact ⟨rfl, fun o ho => by simp [runC] at ho, h, hs⟩
  | cons e t ih =>
    obtain ⟨a, r1, r2, r3⟩ := edit_refines s e h hs
    obtain ⟨i1, i2, i3, i4⟩ := ih _ r2 r3
    simp only [runC, List.foldl_cons]
    refine ⟨by rw [i1, r1], ?_, i3, i4⟩
    intro o ho
    simp only [List.mem_cons] at ho
    rcases ho with rfl | ho
    · exact a
    · exact i2 o ho

theorem run_init (es : List CEdit) (sz keep : Nat) (h1 : 0 < sz) (h2 : sz ≤ MAX_PAGE) :
    shown (runC (V.init .comp sz keep) es).1 = es.foldl refC [] ∧ (∀ o ∈ (runC (V.init .comp sz keep) es).2, Accepted o) ∧
    CInv (runC (V.init .comp sz keep) es).1 ∧ CSync (runC (V.init .comp sz keep) es).1 := by
  obtain ⟨hi, hs⟩ := cinv_init sz keep h1 h2
  exact run_refines _ es hi hs

theorem C03_refinement_comp (es : List CEdit) (sz keep : Nat) (h1 : 0 < sz) (h2 : sz ≤ MAX_PAGE) :
    (runC (V.init .comp sz keep) es).1.items = ((es.foldl refC []).map some, false) ∧
    (∀ o ∈ (runC (V.init .comp sz keep) es).2, Accepted o) := by
  obtain ⟨r1, r2, r3, _⟩ := run_init es sz keep h1 h2
  exact ⟨by rw [items_eq_shown _ r3, r1], r2⟩

/-- C07: the page index after every such history — every page decodes to as many values as its entry says, every
page but the last is full, the run is gap-free from the header and inside the data region, the index region has one entry per page -/
theorem C07_history_index (es : List CEdit) (sz keep : Nat) (h1 : 0 < sz) (h2 : sz ≤ MAX_PAGE) :
    CInv (runC (V.init .comp sz keep) es).1 ∧ CSync (runC (V.init .comp sz keep) es).1 :=
  (run_init es sz keep h1 h2).2.2

/-- non-vacuity: page capacity 4 (sz = 4096): three writes across the three paths -/
example : ((runC (V.init .comp 4096 0) [.push 1, .push 2, .write [], .push 3, .write [], .push 4, .push 5, .write [9], .truncate 3, .push 7, .write []]).1.items).1
    = [some 1, some 2, some 3, some 7] := by decide +kernel

end AnyDB.C03c
