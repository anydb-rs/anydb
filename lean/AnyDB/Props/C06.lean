import AnyDB.Model.Compute

/-!
# C06 — incrementally maintained computed columns equal a from-scratch run

Model: `AnyDB/Model/Compute.lean`.  `spec` holds the defining formula of 32 exact `compute_*` methods; the compute engine
compares the implementation's incremental results with it (and with a from-scratch run of the implementation itself)
after every call.

For the **accumulator families** — every method whose batch closure resumes from the last stored output and folds the
new source elements into it: `compute_cumulative`, `_cumulative_binary`, `_cumulative_transformed_binary` (`f = +` over a
pre-combined source), `compute_cumulative_count` (`f acc x = if p x then acc+1 else acc`), `compute_all_time_high`
(`f = max`) — the incremental algorithm itself is modelled (`batchScan`, `runBatches`, `computeInit`) and proved equal to
the running fold `scanF f init` for EVERY step function `f`, initial state, batch capacity `cap ≥ 1`, resume point and
history of the sources:

* `C06_incremental_eq_scratch` — old result for the old sources, sources changed from index `p` on (append,
  truncate-and-regrow), caller passes `max_from ≤ p`: the stored result is the fold of the new sources and as long as they
  are; hence `C06_batch_independent` (no dependence on the batch capacity) and `C06_redundant_call`;
* its steps: `C06_scan_causal` (the fold below `p` depends on sources below `p` only), `C06_batch_extends` (one batch takes
  the correct prefix of length `n` to that of length `min (n+cap) len`), `C06_run_correct` (`repeat_until_complete` ends on
  the full fold; fuel = missing elements + 1 suffices).

That `spec` is this fold is a theorem for three of the five methods (`C06_spec_cumulative`, `C06_spec_all_time_high`,
`C06_spec_cumulative_count`); for the two binary ones `spec` reads `scanF (· + ·) 0` over the `zip2`-combined sources, and
no theorem says so.

The driver (`Driver/ComputeProto.lean`) evaluates `spec` and nothing else.  `batchScan`, `runBatches` and `computeInit` —
what the theorems listed above and those of `Props/C19.lean` are about — model the batch closure, `repeat_until_complete`
and `compute_init` as read from the source and are never run against it: they are tied to the code only through the values
of `spec` that the engine compares.

Known finding (F3): `compute_all_time_low_(exclude_default = true)` is NOT an accumulator of its last output
(`C06_allTimeLowExcl_counterexample`).  Window, lookback, index-group and multi-source families: formula in `spec`, tied by
the three-way comparison only (their incremental algorithms are not modelled).
-/
namespace AnyDB.C06
open AnyDB Compute

variable (f : Nat → Nat → Nat)

theorem scanF_length (acc : Nat) (l : List Nat) : (scanF f acc l).length = l.length := by
  induction l generalizing acc with
  | nil => rfl
  | cons x xs ih => simp [scanF, ih]

theorem scanF_append (acc : Nat) (a b : List Nat) :
    scanF f acc (a ++ b) = scanF f acc a ++ scanF f ((scanF f acc a).getLastD acc) b := by
  induction a generalizing acc with
  | nil => simp [scanF]
  | cons x xs ih =>
    simp only [List.cons_append, scanF, ih]
    congr 2
    cases h : scanF f (f acc x) xs with
    | nil => simp
    | cons y ys => simp [List.getLastD]

theorem scanF_take (acc : Nat) (l : List Nat) (n : Nat) : (scanF f acc l).take n = scanF f acc (l.take n) := by
  induction l generalizing acc n with
  | nil => simp [scanF]
  | cons x xs ih =>
    cases n with
    | zero => simp [scanF]
    | succ k => simp [scanF, ih]

theorem C06_scan_causal (init : Nat) (a b : List Nat) (p : Nat) (h : a.take p = b.take p) :
    (scanF f init a).take p = (scanF f init b).take p := by
  rw [scanF_take, scanF_take, h]

/-- the last stored output is the running state needed to resume -/
theorem last_of_prefix (init : Nat) (src : List Nat) (n : Nat) (hn : 0 < n) (hle : n ≤ src.length) :
    ((scanF f init src).take n).getD (n - 1) init = (scanF f init (src.take n)).getLastD init := by
  rw [scanF_take]
  have hlen : (scanF f init (src.take n)).length = n := by simp [scanF_length]; omega
  generalize scanF f init (src.take n) = l at hlen
  rw [List.getLastD_eq_getLast?, List.getLast?_eq_getElem?, hlen]
  simp [List.getD]

theorem scanF_take_length (init : Nat) (src : List Nat) (n : Nat) (hn : n ≤ src.length) :
    ((scanF f init src).take n).length = n := by
  rw [List.length_take, scanF_length]
  omega

theorem C06_batch_extends (init cap : Nat) (src : List Nat) (n : Nat) (hn : n ≤ src.length) :
    batchScan f init cap src ((scanF f init src).take n) = (scanF f init src).take (min (n + cap) src.length) := by
  unfold batchScan
  simp only [scanF_take_length f init src n hn]
  by_cases hge : n ≥ min (n + cap) src.length
  · rw [if_pos hge, show min (n + cap) src.length = n by omega]
  · rw [if_neg hge]
    have hsplit : src.take (min (n + cap) src.length) = src.take n ++ (src.drop n).take (min (n + cap) src.length - n) := by
      rw [← List.take_append_drop n (src.take (min (n + cap) src.length)), List.take_take, List.drop_take,
        show min n (min (n + cap) src.length) = n by omega]
    rw [scanF_take f init src (min (n + cap) src.length), hsplit, scanF_append]
    congr 1
    · rw [scanF_take]
    · congr 1
      by_cases h0 : n > 0
      · rw [if_pos h0]
        exact last_of_prefix f init src n h0 hn
      · have : n = 0 := by omega
        subst this
        rfl

theorem C06_run_correct (init cap : Nat) (hcap : 0 < cap) (src : List Nat) (fuel n : Nat) (hn : n ≤ src.length)
    (hf : src.length - n < fuel) :
    runBatches (batchScan f init cap src) fuel ((scanF f init src).take n) = scanF f init src := by
  induction fuel generalizing n with
  | zero => omega
  | succ k ih =>
    rw [runBatches]
    simp only [C06_batch_extends f init cap src n hn, scanF_take_length f init src _ (Nat.min_le_right ..),
      scanF_take_length f init src n hn]
    by_cases hdone : min (n + cap) src.length = n
    · rw [if_pos hdone]
      apply List.take_of_length_le
      rw [scanF_length]
      omega
    · rw [if_neg hdone]
      exact ih _ (Nat.min_le_right ..) (by omega)

theorem C06_incremental_eq_scratch (init cap : Nat) (hcap : 0 < cap) (old new : List Nat) (p maxFrom : Nat)
    (hagree : old.take p = new.take p) (hp : p ≤ old.length) (hp' : p ≤ new.length) (hm : maxFrom ≤ p) :
    runBatches (batchScan f init cap new) (new.length + 1) (computeInit false maxFrom (scanF f init old)) = scanF f init new ∧
    (runBatches (batchScan f init cap new) (new.length + 1) (computeInit false maxFrom (scanF f init old))).length = new.length := by
  have hpre : (scanF f init old).take maxFrom = (scanF f init new).take maxFrom := by
    apply C06_scan_causal
    rw [← Nat.min_eq_left hm, ← List.take_take, ← List.take_take, hagree]
  have key := C06_run_correct f init cap hcap new (new.length + 1) maxFrom (by omega) (by omega)
  unfold computeInit
  simp only [Bool.false_eq_true, if_false]
  rw [hpre, key]
  exact ⟨rfl, scanF_length f init new⟩

theorem C06_batch_independent (init cap₁ cap₂ : Nat) (h₁ : 0 < cap₁) (h₂ : 0 < cap₂) (old new : List Nat) (p maxFrom : Nat)
    (hagree : old.take p = new.take p) (hp : p ≤ old.length) (hp' : p ≤ new.length) (hm : maxFrom ≤ p) :
    runBatches (batchScan f init cap₁ new) (new.length + 1) (computeInit false maxFrom (scanF f init old)) =
    runBatches (batchScan f init cap₂ new) (new.length + 1) (computeInit false maxFrom (scanF f init old)) := by
  rw [(C06_incremental_eq_scratch f init cap₁ h₁ old new p maxFrom hagree hp hp' hm).1,
      (C06_incremental_eq_scratch f init cap₂ h₂ old new p maxFrom hagree hp hp' hm).1]

theorem C06_redundant_call (init cap : Nat) (hcap : 0 < cap) (src : List Nat) (maxFrom : Nat) (hm : maxFrom ≤ src.length) :
    runBatches (batchScan f init cap src) (src.length + 1) (computeInit false maxFrom (scanF f init src)) = scanF f init src :=
  (C06_incremental_eq_scratch f init cap hcap src src src.length maxFrom rfl (Nat.le_refl _) (Nat.le_refl _) hm).1

/- `spec` at three accumulator methods is `scanF` (this and the two theorems after it).  The match on the method name is a
chain of `if m = "…"`; unfolding the matcher itself and letting `simp` decide the string equalities is cheap, whereas
`simp [spec]` first derives the equations of the 32-way match, which takes seconds. -/
theorem C06_spec_cumulative (w fr : Nat) (a : List Nat) : spec "cumulative" w fr [a] = some (scanF (· + ·) 0 a) := by
  unfold spec spec.match_1; simp only [String.reduceEq, ↓reduceDIte]; rfl
theorem C06_spec_all_time_high (w fr : Nat) (a : List Nat) : spec "all_time_high" w fr [a] = some (scanF max 0 a) := by
  unfold spec spec.match_1; simp only [String.reduceEq, ↓reduceDIte]; rfl
theorem C06_spec_cumulative_count (w fr : Nat) (a : List Nat) :
    spec "cumulative_count" w fr [a] = some (scanF (fun acc x => if even x then acc + 1 else acc) 0 a) := by
  unfold spec spec.match_1; simp only [String.reduceEq, ↓reduceDIte]; rfl

/-- F3 on the model: resuming `all_time_low_(exclude_default)` from the stored output is not the formula.
    src [5,0] gives [5,0]; append 7: resuming with prev = last output 0 yields min(0,7)=0, the formula 5. -/
theorem C06_allTimeLowExcl_counterexample :
    scanLowExcl none [5, 0, 7] = [5, 0, 5] ∧
    (scanLowExcl none [5, 0]) ++ scanLowExcl (some ((scanLowExcl none [5, 0]).getLastD 0)) [7] = [5, 0, 0] := by
  decide

/-- non-vacuity: truncate-and-regrow history of a cumulative sum with capacity 2 -/
example :
    runBatches (batchScan (· + ·) 0 2 [1, 2, 9, 9, 9]) 6 (computeInit false 2 (scanF (· + ·) 0 [1, 2, 3, 4])) = [1, 3, 12, 21, 30] := by
  decide

end AnyDB.C06
