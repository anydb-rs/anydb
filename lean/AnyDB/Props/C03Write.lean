import AnyDB.Props.C03

/-!
# C03, the write step — `write()` changes where elements live, not what the vector contains

`C03_write_preserves`, for the raw formats with the stored length inside the region (every state of a C03 history; after
a rolled-back truncation see C20), read off the closed form of the raw `write()` (`writeRaw_eq`, `written`:
Lemmas/RawVec.lean).  What the theorem needs of the state is `UpdOK` (the overlay has distinct keys, all of them stored
slots); it follows (`updOK_of_inv`) from `UpdInv` (sorted keys), which holds initially and is kept by push, update, delete
and truncate (`updInv_*`).
The compressed `write()` is part of `C03_refinement_comp` (Props/C03Comp.lean); reset and re-import are validated by
the correspondence only.
-/
namespace AnyDB.C03w
open VecM VecM.V

/-- the overlay of a raw vector: a map (distinct keys) over stored slots only -/
def UpdOK (s : V) : Prop := KeysDistinct s.updated ∧ ∀ kv ∈ s.updated, kv.1 < s.storedLen

theorem wrData_spec (t s1 : V) (hle : t.storedLen ≤ t.disk.length)
    (h : t.wrData (decide (t.storedLen < t.disk.length)) = .ok s1) :
    s1.disk = t.disk.take t.storedLen ++ t.pushed ∧ s1.storedLen = t.storedLen + t.pushed.length ∧ s1.pushed = [] ∧
    s1.holes = t.holes ∧ s1.updated = t.updated := by
  rw [wrData_ok t hle] at h
  cases h
  exact ⟨rfl, rfl, rfl, rfl, rfl⟩

/-- C03, the write step (raw formats, stored length inside the region): a successful `write()` changes where the
elements live — buffered ones go to the region, overlaid ones are stored in place — and NOT what the vector
contains: every index reads the same before and after -/
theorem C03_write_preserves (s : V) (b : Bool) (h : s.writeRaw.2 = .okB b) (hu : UpdOK s) (hle : s.storedLen ≤ s.disk.length) (i : Nat) :
    (s.writeRaw.1.getAny i).1 = (s.getAny i).1 := by
  -- under `hle` and `hu` the write cannot fail (`writeRaw_eq`): `h` is not needed
  have _ := h
  rw [writeRaw_fst s hle hu.2, getAny_fst, getAny_fst]
  show (if i ∈ s.holes then none else if s.storedLen + s.pushed.length ≤ i then ([] : List Nat)[i - (s.storedLen + s.pushed.length)]?
    else some (match mapGet ([] : List (Nat × Nat)) i with | some v => v | none => (written s).disk.getD i garbage)) = _
  have hslot := written_get s hu.1 hu.2 hle i
  by_cases h1 : i ∈ s.holes
  · rw [if_pos h1, if_pos h1]
  · rw [if_neg h1, if_neg h1]
    by_cases h2 : s.storedLen ≤ i
    · rw [if_pos h2]
      by_cases h3 : s.storedLen + s.pushed.length ≤ i
      · rw [if_pos h3, List.getElem?_nil, List.getElem?_eq_none (by omega)]
      · -- a buffered element now lies in the region, behind the stored part
        have hn : mapGet s.updated i = none := by
          cases hg : mapGet s.updated i with
          | none => rfl
          | some v => exact absurd (hu.2 (i, v) (C04r.mem_of_mapGet _ _ _ hg)) (Nat.not_lt.mpr h2)
        rw [hn, List.getElem?_append_right (by rw [List.length_take_of_le hle]; exact h2), List.length_take_of_le hle] at hslot
        rw [if_neg h3, List.getD_eq_getElem?_getD, hslot, List.getElem?_eq_getElem (by omega)]
        rfl
    · have hlt := Nat.lt_of_not_le h2
      rw [if_neg h2, if_neg (fun h3 => h2 (Nat.le_trans (Nat.le_add_right ..) h3))]
      rw [stored_get _ _ _ _ hle hlt] at hslot
      rw [List.getD_eq_getElem?_getD, hslot]
      unfold C04m.slotVal
      cases mapGet s.updated i with
      | some v => rfl
      | none => rfl

def UpdInv (s : V) : Prop := KeysSorted s.updated ∧ ∀ kv ∈ s.updated, kv.1 < s.storedLen

theorem updOK_of_inv (s : V) (h : UpdInv s) : UpdOK s := ⟨sorted_distinct _ h.1, h.2⟩

theorem updInv_update (s : V) (i v : Nat) (h : UpdInv s) : UpdInv (s.updateAt i v).1 := by
  refine updateAt_state s i v h (fun _ _ => h) (fun hs => ⟨mapInsert_sorted _ _ _ h.1, fun kv hkv => ?_⟩)
  rcases mem_mapInsert _ _ _ _ hkv with h1 | h1
  · rw [h1]
    exact hs
  · exact h.2 kv h1

theorem updInv_delete (s : V) (i : Nat) (h : UpdInv s) : UpdInv (s.deleteAt i) :=
  deleteAt_state s i h (fun _ => ⟨h.1.filter _, fun kv hkv => h.2 kv (List.mem_filter.mp hkv).1⟩)

theorem updInv_push (s : V) (v : Nat) (h : UpdInv s) : UpdInv (s.push v) := h

theorem updInv_truncate (s : V) (n : Nat) (hk : s.kind = .raw) (h : UpdInv s) : UpdInv (s.truncate n) := by
  rw [truncate_raw s n hk]
  refine ⟨h.1.filter _, fun kv hkv => ?_⟩
  have hm := List.mem_filter.mp hkv
  exact Nat.lt_min.mpr ⟨of_decide_eq_true hm.2, h.2 kv hm.1⟩

theorem updInv_init (k : Kind) (sz keep : Nat) : UpdInv (V.init k sz keep) :=
  ⟨List.Pairwise.nil, fun _ h => nomatch h⟩

-- the F18 state and a buffered tail: the logical contents survive the write
example : ∀ i, i < 6 → (({ V.init .raw 8 0 with disk := [10, 11, 12], storedLen := 3, pushed := [13, 14], holes := [1], updated := [(2, 99)] } : V).writeRaw.1.getAny i).1
    = (({ V.init .raw 8 0 with disk := [10, 11, 12], storedLen := 3, pushed := [13, 14], holes := [1], updated := [(2, 99)] } : V).getAny i).1 := by
  decide

end AnyDB.C03w
