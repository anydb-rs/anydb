import AnyDB.Props.C04Raw
import AnyDB.Props.C20

/-!
# C20 across a rollback (raw formats)

`undo_raw_overlay`: the overlay after `deserialize_then_undo_changes`, entry by entry.
`C20_undo_covered`: after undoing ANY record whose modifications address stored slots and whose truncated tail starts
inside the region (`hts`) and reaches up to the restored stored length (`hlen`, first disjunct; the second is the case
in which that length lies inside the region and no tail is needed), every slot between the end of the region and the
stored length is deleted or overlaid — the invariant `Covered` of `Props/C20.lean` under which no read path of the
read-write vector leaves the region (`C20_getAny`, `C20_items_raw`; clones and stored sources are clamped anyway,
`C20_cloneGet`).  In a record that is `Faithful` (Props/C04Raw.lean; `faithful_recordOf` for the one a
commit writes) the tail starts at the stored length of the edited state, which the region left by the commit's write covers,
and holds `prevStoredLen - truncatedStart` values: that is `hts` and the first disjunct of `hlen`; no lemma here derives them.
-/
namespace AnyDB.C20b
open VecM VecM.V C03w C04r C20

theorem undo_raw_overlay (s : V) (bytes : List UInt8) (ch : Change) (hk : s.kind = .raw)
    (hp : parseChange s.kind s.sz bytes = .ok ch)
    (hm : ∀ kv ∈ ch.mods, kv.1 < ch.prevStoredLen) (hd : KeysDistinct ch.mods) (i : Nat) :
    mapGet (s.undo bytes).1.updated i =
      match mapGet ch.mods i with
      | some v => some v
      | none => if ch.truncatedStart ≤ i ∧ i < ch.truncatedStart + ch.truncatedValues.length
                then some (ch.truncatedValues.getD (i - ch.truncatedStart) 0) else mapGet (baseUpdated s ch) i := by
  obtain ⟨_, e⟩ := undoRaw_eq s ch hm
  rw [undo_raw_eq s bytes ch hk hp, e]
  exact mapGet_undoUpdated s ch hd i

theorem C20_undo_covered (s : V) (bytes : List UInt8) (ch : Change) (hk : s.kind = .raw)
    (hp : parseChange s.kind s.sz bytes = .ok ch)
    (hm : ∀ kv ∈ ch.mods, kv.1 < ch.prevStoredLen) (hd : KeysDistinct ch.mods)
    (hts : ch.truncatedStart ≤ s.disk.length)
    (hlen : ch.truncatedStart + ch.truncatedValues.length = ch.prevStoredLen ∨ ch.prevStoredLen ≤ s.disk.length) :
    Covered (s.undo bytes).1 := by
  obtain ⟨_, _, u3, _, _, u6, _⟩ := C04_raw_undo_items s bytes ch hk hp hm hd
  intro i h1 h2
  rw [u6] at h1
  rw [u3] at h2
  rcases hlen with hl | hl
  · -- i lies in the truncated tail: the overlay has it, from a modification or from the tail
    right
    rw [undo_raw_overlay s bytes ch hk hp hm hd i]
    cases mapGet ch.mods i with
    | some v => rfl
    | none =>
      have : ch.truncatedStart ≤ i ∧ i < ch.truncatedStart + ch.truncatedValues.length := by omega
      rw [if_pos this]
      rfl
  · omega

end AnyDB.C20b
