import AnyDB.Model.Publish
import AnyDB.Model.PublishC

/-!
# C09 — a concurrent reader never sees a length whose elements are not there yet

Two small-step models at the granularity of the writer's internal effects, one for the raw formats
(`Model/Publish.lean`: data copy, region length, relocation to a fresh extent, move, length publication) and one
for the compressed formats (`Model/PublishC.lean`: data write, index lock, index update, publication, unlock).
The writer's programs (`progInPlace`, `progReloc`, `PublishC.prog`) are literal lists; `C09_programs` and
`C09_comp_programs` (`Props/C09Pins.lean`) prove them equal to the lists derived from the call orders the extractor reads off
the source, so a reordering in `write()` or in `Region::write_with` breaks those two theorems; the ones here go on speaking
about the literals.

Raw formats (`AnyDB.C09`):
* `C09_read_prefix`   in EVERY state reachable by ANY interleaving of the writer's effects (in place or relocating, any
  batch sizes) with the reader's steps, a read of an index below the length the reader loaded returns the value the
  writer stored there;
* `C09_len_monotone`  two loads of the shared length by one reader, with anything in between, never decrease;
* `C09_reordered_counterexample`  a writer that publishes BEFORE storing the data lets a reader load a length whose first
  element is not there: the model can exhibit the failure the property excludes.
Compressed formats (`AnyDB.PublishC`):
* `C09_comp_read_partial`  for every interleaving in which each write starts on a page boundary or extends the raw
  tail page, the reader's read of `[0, l)` — `l` the length it loaded before taking the index lock — is exactly the
  first `l` values of the writer's sequence;
* `C09_comp_counterexample` (F17)  a write that crosses a page boundary from a partial tail page overwrites that
  page before taking the index lock: a reader holding the old index decodes garbage — the full statement is false
  of the model and of the code (known finding);
* `C09_comp_reordered_counterexample`  publication before the index update (the seeded change) lets a reader load a
  length the index it then locks does not cover.
No blocking, in the model (by its text, not a theorem): every reader step of the raw model is always enabled; in the
compressed model the writer disables `rLock` only while it holds the index lock, which the third of its own steps after
`lockIndex` releases (`indexUpdate`, `publish`, `unlockIndex`).

What the models cannot exhibit: memory-ordering effects below the Release/Acquire pair (x86 hides them anyway),
torn element reads, the mmap being replaced under a reader (excluded by the guard the Reader holds — C11).
Tie to the code: the extractor (orders) and the directed schedules of the harness engine `c09` (over `dsched`): the writer
parked at every lock event of a write — request, acquisition, release, as the lock shim reports them; there are no finer
pause points — with the full reader battery on clones / VecReader / cursors in between; a reader parked at every lock
event of a range read, in particular between its length load and its snapshot, while whole writes, relocations and file
growth happen.
-/
namespace AnyDB.C09
open AnyDB Publish

def progInPlace : List Eff := [.copy, .setLen, .publish]
def progReloc : List Eff := [.relocCopy, .copy, .move, .publish]

/-- what must hold at each point of the running write -/
def PhaseInv (s : Sys) : Prop :=
  (s.prog = [] ∧ s.pub = s.rlen ∧ s.seq.length = s.pub ∧ s.reloc = false) ∨
  (s.prog = progInPlace ∧ s.pub = s.rlen ∧ s.seq.length = s.pub ∧ s.reloc = false ∧ s.batch ≠ []) ∨
  (s.prog = [.setLen, .publish] ∧ s.pub = s.rlen ∧ s.reloc = false ∧ s.seq.length = s.pub + s.batch.length ∧
      (s.ext s.cur).take (s.pub + s.batch.length) = s.seq) ∨
  (s.prog = [.publish] ∧ s.rlen = s.pub + s.batch.length ∧ s.reloc = false ∧ s.seq.length = s.rlen) ∨
  (s.prog = progReloc ∧ s.pub = s.rlen ∧ s.seq.length = s.pub ∧ s.reloc = true ∧ s.batch ≠ []) ∨
  (s.prog = [.copy, .move, .publish] ∧ s.pub = s.rlen ∧ s.seq.length = s.pub ∧ s.reloc = true ∧
      s.ext (s.cur + 1) = s.seq) ∨
  (s.prog = [.move, .publish] ∧ s.pub = s.rlen ∧ s.reloc = true ∧ s.seq.length = s.pub + s.batch.length ∧
      s.ext (s.cur + 1) = s.seq)

/-- the region: the current placement holds the writer's sequence up to the region length (`cur_ok`, `len_ok`), which the
published length does not exceed (`pub_ok`); the writer: where its running program stands (`phase`);
the reader: the length it loaded had been published (`rd_len`); the placement `p` and region length `n` it snapshotted
(`rd_snap`): `p` is the current placement or an older one and still holds the first `n` elements of the sequence, `n` is within
the region length if `p` is current, and `n` covers the length loaded before -/
structure Inv (s : Sys) : Prop where
  cur_ok : (s.ext s.cur).take s.rlen = s.seq.take s.rlen
  len_ok : s.rlen ≤ s.seq.length
  pub_ok : s.pub ≤ s.rlen
  phase : PhaseInv s
  rd_len : ∀ l, s.rL = some l → l ≤ s.pub
  rd_snap : ∀ p n, s.rP = some (p, n) → p ≤ s.cur ∧ (s.ext p).take n = s.seq.take n ∧ n ≤ s.seq.length ∧
      (p = s.cur → n ≤ s.rlen) ∧ (∀ l, s.rL = some l → l ≤ n)

theorem inv_init : Inv Sys.init := by
  refine ⟨by simp [Sys.init], by simp [Sys.init], by simp [Sys.init], ?_, by simp [Sys.init], by simp [Sys.init]⟩
  left; simp [Sys.init]

/-- why `Inv` survives a step: the data of a running write never lands below the published length of the placement it
targets -/
theorem step_inv (s : Sys) (a : Act) (h : Inv s)
    (hp : ∀ b r p, a = .wStart b r p → (r = false ∧ p = progInPlace) ∨ (r = true ∧ p = progReloc)) : Inv (step s a).1 := by
  cases a with
  | wStart b r p =>
    simp only [step]
    split
    · rename_i hc
      obtain ⟨hidle, hb⟩ := hc
      rcases h.phase with ph | ph | ph | ph | ph | ph | ph <;> (try (simp [hidle, progInPlace, progReloc] at ph; done))
      obtain ⟨_, h1, h2, h3⟩ := ph
      rcases hp b r p rfl with ⟨rfl, rfl⟩ | ⟨rfl, rfl⟩
      · exact ⟨h.cur_ok, h.len_ok, h.pub_ok, Or.inr (Or.inl ⟨rfl, h1, h2, rfl, hb⟩), h.rd_len, h.rd_snap⟩
      · exact ⟨h.cur_ok, h.len_ok, h.pub_ok, Or.inr (Or.inr (Or.inr (Or.inr (Or.inl ⟨rfl, h1, h2, rfl, hb⟩)))), h.rd_len, h.rd_snap⟩
    · exact h
  | wStep =>
    simp only [step]
    have hseq : s.seq.length = s.pub → s.seq.take s.pub = s.seq := fun e => by rw [← e]; exact List.take_length
    have hcur : s.pub = s.rlen → s.seq.length = s.pub → (s.ext s.cur).take s.pub = s.seq := fun e1 e2 => by
      have := h.cur_ok; rwa [← e1, hseq e2] at this
    rcases h.phase with ph | ph | ph | ph | ph | ph | ph
    · -- idle
      obtain ⟨h0, _⟩ := ph
      simp only [h0]; exact h
    · -- in place: copy
      obtain ⟨h0, h1, h2, h3, hb⟩ := ph
      have hseq := hseq h2
      have hcur := hcur h1 h2
      have htl : ((s.ext s.cur).take s.pub).length = s.pub := by rw [hcur]; exact h2
      simp only [h0, progInPlace, eff, Sys.target, h3, Bool.false_eq_true, if_false]
      refine ⟨?_, ?_, h.pub_ok, ?_, h.rd_len, ?_⟩
      · simp only [setExt, if_true, hcur, hseq, ← h1]
      · simp only [hseq, List.length_append]; have := h.len_ok; omega
      · right; right; left
        refine ⟨rfl, h1, rfl, ?_, ?_⟩
        · simp only [hseq, List.length_append, h2]
        · simp only [setExt, if_true, hcur, hseq]
          rw [List.take_of_length_le]; simp only [List.length_append, h2]; omega
      · intro p n hpn
        obtain ⟨g1, g2, g3, g4, g5⟩ := h.rd_snap p n hpn
        refine ⟨g1, ?_, ?_, g4, g5⟩
        · simp only [setExt, hseq]
          by_cases hpc : p = s.cur
          · have hn : n ≤ s.pub := by have := g4 hpc; omega
            simp only [hpc, if_true]
            rw [List.take_append_of_le_length (by omega), List.take_take, Nat.min_eq_left hn, List.take_append_of_le_length (by omega)]
            rw [hpc] at g2; exact g2
          · simp only [hpc, if_false]
            rw [List.take_append_of_le_length g3]; exact g2
        · simp only [hseq, List.length_append]; omega
    · -- in place: setLen
      obtain ⟨h0, h1, h3, h4, h5⟩ := ph
      simp only [h0, eff]
      refine ⟨?_, ?_, ?_, ?_, h.rd_len, ?_⟩
      · rw [h5, ← h4, List.take_length]
      · simp only; omega
      · simp only; omega
      · right; right; right; left
        exact ⟨rfl, rfl, h3, by omega⟩
      · intro p n hpn
        obtain ⟨g1, g2, g3, g4, g5⟩ := h.rd_snap p n hpn
        exact ⟨g1, g2, g3, fun hpc => by have := g4 hpc; simp only; omega, g5⟩
    · -- publish
      obtain ⟨h0, h1, h3, h4⟩ := ph
      simp only [h0, eff]
      refine ⟨h.cur_ok, h.len_ok, ?_, ?_, ?_, ?_⟩
      · simp only; omega
      · left; exact ⟨rfl, by simp only; omega, by simp only; omega, h3⟩
      · intro l hl; have := h.rd_len l hl; simp only; omega
      · exact h.rd_snap
    · -- relocating: relocCopy
      obtain ⟨h0, h1, h2, h3, hb⟩ := ph
      have hcur := hcur h1 h2
      simp only [h0, progReloc, eff]
      have hne : s.cur ≠ s.cur + 1 := by omega
      refine ⟨?_, h.len_ok, h.pub_ok, ?_, h.rd_len, ?_⟩
      · simp only [setExt, hne, if_false]; exact h.cur_ok
      · right; right; right; right; right; left
        exact ⟨rfl, h1, h2, h3, by simp only [setExt, if_true, hcur]⟩
      · intro p n hpn
        obtain ⟨g1, g2, g3, g4, g5⟩ := h.rd_snap p n hpn
        have : p ≠ s.cur + 1 := by omega
        exact ⟨g1, by simp only [setExt, this, if_false]; exact g2, g3, g4, g5⟩
    · -- relocating: copy into the new extent
      obtain ⟨h0, h1, h2, h3, h5⟩ := ph
      have hseq := hseq h2
      have hne : s.cur ≠ s.cur + 1 := by omega
      simp only [h0, eff, Sys.target, h3, if_true]
      refine ⟨?_, ?_, h.pub_ok, ?_, h.rd_len, ?_⟩
      · simp only [setExt, hne, if_false, hseq]
        rw [List.take_append_of_le_length (by omega)]; exact h.cur_ok
      · simp only [hseq, List.length_append]; have := h.len_ok; omega
      · right; right; right; right; right; right
        refine ⟨rfl, h1, rfl, by simp only [hseq, List.length_append, h2], ?_⟩
        simp only [setExt, if_true, h5, hseq]
      · intro p n hpn
        obtain ⟨g1, g2, g3, g4, g5⟩ := h.rd_snap p n hpn
        have : p ≠ s.cur + 1 := by omega
        refine ⟨g1, ?_, ?_, g4, g5⟩
        · simp only [setExt, this, if_false, hseq]
          rw [List.take_append_of_le_length g3]; exact g2
        · simp only [hseq, List.length_append]; omega
    · -- relocating: move
      obtain ⟨h0, h1, h3, h4, h5⟩ := ph
      simp only [h0, eff]
      refine ⟨?_, ?_, ?_, ?_, h.rd_len, ?_⟩
      · rw [h5, ← h4, List.take_length]
      · simp only; omega
      · simp only; omega
      · right; right; right; left
        exact ⟨rfl, rfl, rfl, by omega⟩
      · intro p n hpn
        obtain ⟨g1, g2, g3, g4, g5⟩ := h.rd_snap p n hpn
        exact ⟨by simp only; omega, g2, g3, fun hpc => by simp only at hpc; omega, g5⟩
  | rLoad =>
    simp only [step]
    exact ⟨h.cur_ok, h.len_ok, h.pub_ok, h.phase, by intro l hl; simp only [Option.some.injEq] at hl; simp only; omega, by intro p n hpn; simp at hpn⟩
  | rSnap =>
    simp only [step]
    cases hl : s.rL with
    | none => exact h
    | some l =>
      refine ⟨h.cur_ok, h.len_ok, h.pub_ok, h.phase, by simpa [hl] using h.rd_len, ?_⟩
      intro p n hpn
      simp only [Option.some.injEq, Prod.mk.injEq] at hpn
      obtain ⟨rfl, rfl⟩ := hpn
      refine ⟨Nat.le_refl _, h.cur_ok, h.len_ok, fun _ => Nat.le_refl _, ?_⟩
      intro l' hl'
      have := h.rd_len l' (by rw [hl]; exact hl')
      have := h.pub_ok
      omega
  | rRead i =>
    simp only [step]
    split
    · split <;> exact h
    · exact h
  | rDone =>
    simp only [step]
    exact ⟨h.cur_ok, h.len_ok, h.pub_ok, h.phase, by intro l hl; simp at hl, by intro p n hpn; simp at hpn⟩

/-- the writer only ever starts one of the two extracted programs -/
def WfActs (as : List Act) : Prop :=
  ∀ a ∈ as, ∀ b r p, a = Act.wStart b r p → (r = false ∧ p = progInPlace) ∨ (r = true ∧ p = progReloc)

theorem run_inv (s : Sys) (as : List Act) (h : Inv s) (hw : WfActs as) : Inv (run s as) := by
  induction as generalizing s with
  | nil => exact h
  | cons a t ih =>
    exact ih _ (step_inv s a h (hw a (List.mem_cons_self ..))) (fun x hx => hw x (List.mem_cons_of_mem _ hx))

theorem C09_read_prefix (as : List Act) (hw : WfActs as) (i : Nat) (l p n : Nat)
    (hl : (run Sys.init as).rL = some l) (hp : (run Sys.init as).rP = some (p, n)) (hi : i < l) :
    (step (run Sys.init as) (.rRead i)).2 = some ((run Sys.init as).seq[i]?) ∧ i < (run Sys.init as).seq.length := by
  have h := run_inv Sys.init as inv_init hw
  obtain ⟨_, g2, g3, _, g5⟩ := h.rd_snap p n hp
  have hin : i < n := Nat.lt_of_lt_of_le hi (g5 l hl)
  simp only [step, hl, hp, hi, if_true]
  rw [← List.getElem?_take_of_lt hin, g2, List.getElem?_take_of_lt hin]
  exact ⟨rfl, Nat.lt_of_lt_of_le hin g3⟩

theorem pub_mono_step (s : Sys) (a : Act) : s.pub ≤ (step s a).1.pub := by
  cases a with
  | wStart b r p => simp only [step]; split <;> simp
  | wStep =>
    simp only [step]
    cases hp : s.prog with
    | nil => simp
    | cons e rest => cases e <;> simp [eff]
  | rLoad => simp [step]
  | rSnap => simp only [step]; split <;> simp
  | rRead i => simp only [step]; split <;> (try split) <;> simp
  | rDone => simp [step]

theorem pub_mono (s : Sys) (as : List Act) : s.pub ≤ (run s as).pub := by
  induction as generalizing s with
  | nil => exact Nat.le_refl _
  | cons a t ih => exact Nat.le_trans (pub_mono_step s a) (ih _)

theorem C09_len_monotone (as bs : List Act) :
    (step (run Sys.init as) .rLoad).1.rL = some (run Sys.init as).pub ∧
    (run Sys.init as).pub ≤ (run (step (run Sys.init as) .rLoad).1 bs).pub := by
  refine ⟨by simp [step], ?_⟩
  have := pub_mono (step (run Sys.init as) .rLoad).1 bs
  simpa [step] using this

theorem C09_reordered_counterexample :
    (step (run Sys.init [.wStart [7] false [.publish, .copy, .setLen], .wStep, .rLoad, .rSnap]) (.rRead 0)).2 = some none := by
  rfl

-- non-vacuity: an interleaving with a relocation in which the reader holds a Reader on the OLD extent
example : (step (run Sys.init [.wStart [7, 8] false progInPlace, .wStep, .wStep, .wStep, .rLoad, .rSnap,
    .wStart [9] true progReloc, .wStep, .wStep, .wStep, .wStep]) (.rRead 1)).2 = some (some 8) := by rfl
end AnyDB.C09

namespace AnyDB.PublishC

/-- every entry decodes, from the bytes at its page position, exactly the content that was indexed -/
def Readable : List Cell → List Ent → Prop
  | _, [] => True
  | [], _ :: _ => False
  | c :: cs, e :: es => readCell c e = some e.vals ∧ Readable cs es

theorem readPages_of_readable (phys : List Cell) (idx : List Ent) (h : Readable phys idx) :
    readPages phys idx = some (flatE idx) := by
  induction phys generalizing idx with
  | nil => cases idx with
    | nil => simp [readPages, flatE]
    | cons e es => simp [Readable] at h
  | cons c t ih => cases idx with
    | nil => simp [readPages, flatE]
    | cons e es =>
      simp only [Readable] at h
      simp only [readPages, h.1, ih es h.2]
      simp [flatE]

theorem readCell_entOf (c : Cell) : readCell c (entOf c) = some c.vals := by
  unfold readCell entOf
  cases h : c.raw <;> simp

theorem readable_map (phys : List Cell) : Readable phys (phys.map entOf) := by
  induction phys with
  | nil => simp [Readable]
  | cons c t ih => simp only [List.map_cons, Readable]; exact ⟨readCell_entOf c, ih⟩

theorem readable_append (phys cs : List Cell) (idx : List Ent) (h : Readable phys idx) : Readable (phys ++ cs) idx := by
  induction phys generalizing idx with
  | nil => cases idx with
    | nil => cases cs <;> simp [Readable]
    | cons e es => simp [Readable] at h
  | cons c t ih => cases idx with
    | nil => simp [Readable]
    | cons e es => simp only [List.cons_append, Readable] at h ⊢; exact ⟨h.1, ih es h.2⟩

theorem readCell_extend (c : Cell) (e : Ent) (b : List Nat) (hr : c.raw = true) (h : readCell c e = some e.vals) :
    readCell { raw := true, vals := c.vals ++ b } e = some e.vals := by
  unfold readCell at h ⊢
  simp only [hr, if_true] at h
  split at h
  · rename_i hc
    simp only [Option.some.injEq] at h
    have : (true = e.raw ∧ e.count ≤ (c.vals ++ b).length) := ⟨hc.1, by simp; omega⟩
    simp only [this, and_self, if_true, Option.some.injEq]
    rw [List.take_append_of_le_length hc.2]; exact h
  · cases h

theorem readable_extend (p : List Cell) (c : Cell) (b : List Nat) (idx : List Ent) (hr : c.raw = true)
    (h : Readable (p ++ [c]) idx) : Readable (p ++ [{ raw := true, vals := c.vals ++ b }]) idx := by
  induction p generalizing idx with
  | nil => cases idx with
    | nil => simp [Readable]
    | cons e es =>
      simp only [List.nil_append, Readable] at h ⊢
      refine ⟨readCell_extend c e b hr h.1, ?_⟩
      cases es with
      | nil => simp [Readable]
      | cons e2 es2 => simp [Readable] at h
  | cons q t ih => cases idx with
    | nil => simp [Readable]
    | cons e es => simp only [List.cons_append, Readable] at h ⊢; exact ⟨h.1, ih es h.2⟩

theorem flat_append (a b : List Cell) : flat (a ++ b) = flat a ++ flat b := by simp [flat]
theorem flatE_append (a b : List Ent) : flatE (a ++ b) = flatE a ++ flatE b := by simp [flatE]
theorem flatE_map (cs : List Cell) : flatE (cs.map entOf) = flat cs := by
  induction cs with
  | nil => rfl
  | cons c t ih => simp [flatE, flat, entOf] at ih ⊢; exact ih

/-- writes that leave every indexed page decodable: new pages behind the last one, or raw bytes behind a raw tail -/
def GoodKind (phys : List Cell) : WKind → Prop
  | .append _ => True
  | .extendTail _ => ∃ p c, phys = p ++ [c] ∧ c.raw = true
  | .rewriteTail _ => False

theorem physAfter_good (phys0 : List Cell) (k : WKind) (hg : GoodKind phys0 k) :
    flat (physAfter phys0 k) = flat phys0 ++ newVals phys0 k ∧
    (∀ idx, Readable phys0 idx → Readable (physAfter phys0 k) idx) ∧
    indexAfter (physAfter phys0 k) (phys0.map entOf) k = (physAfter phys0 k).map entOf := by
  cases k with
  | append cs =>
    refine ⟨by simp [physAfter, newVals, flat_append], fun idx h => readable_append _ _ _ h, by simp [physAfter, indexAfter]⟩
  | extendTail b =>
    obtain ⟨p, c, rfl, hr⟩ := hg
    have h1 : (p ++ [c]).dropLast = p := by simp
    have h2 : tailVals (p ++ [c]) = c.vals := by simp [tailVals]
    refine ⟨?_, ?_, ?_⟩
    · simp [physAfter, newVals, h2, flat]
    · intro idx h; simp only [physAfter, h1, h2]; exact readable_extend p c b idx hr h
    · simp [physAfter, indexAfter, h2]
  | rewriteTail cs => exact absurd hg (by simp [GoodKind])

/-- no write under way: the index describes every page, everything written is published -/
def Idle (s : Sys) : Prop := s.index = s.phys.map entOf ∧ flat s.phys = s.seq ∧ s.pub = s.seq.length

/-- data written, index and published length still the ones from before (`phys0`: the pages before the write) -/
def Mid (s : Sys) : Prop :=
  ∃ phys0, s.index = phys0.map entOf ∧ s.phys = physAfter phys0 s.kind ∧ GoodKind phys0 s.kind ∧ flat s.phys = s.seq ∧
    s.pub = (flat phys0).length

/-- what holds at each point of `prog` -/
def Phase (s : Sys) : Prop :=
  (s.prog = [] ∧ Idle s) ∨
  (s.prog = prog ∧ Idle s ∧ GoodKind s.phys s.kind) ∨
  (s.prog = [.lockIndex, .indexUpdate, .publish, .unlockIndex] ∧ Mid s) ∨
  (s.prog = [.indexUpdate, .publish, .unlockIndex] ∧ Mid s) ∨
  (s.prog = [.publish, .unlockIndex] ∧ s.index = s.phys.map entOf ∧ flat s.phys = s.seq ∧ s.pub ≤ s.seq.length) ∨
  (s.prog = [.unlockIndex] ∧ Idle s)

theorem phase_index (s : Sys) (h : Phase s) :
    Readable s.phys s.index ∧ ∃ n, n ≤ s.seq.length ∧ flatE s.index = s.seq.take n ∧ s.pub ≤ n := by
  have idle : s.index = s.phys.map entOf → flat s.phys = s.seq → s.pub ≤ s.seq.length →
      Readable s.phys s.index ∧ ∃ n, n ≤ s.seq.length ∧ flatE s.index = s.seq.take n ∧ s.pub ≤ n := by
    intro h1 h2 h3
    refine ⟨by rw [h1]; exact readable_map _, s.seq.length, Nat.le_refl _, ?_, h3⟩
    rw [h1, flatE_map, h2, List.take_length]
  have mid : Mid s → Readable s.phys s.index ∧ ∃ n, n ≤ s.seq.length ∧ flatE s.index = s.seq.take n ∧ s.pub ≤ n := by
    intro ⟨phys0, h1, h2, h3, h4, h5⟩
    obtain ⟨g1, g2, _⟩ := physAfter_good phys0 s.kind h3
    refine ⟨by rw [h1, h2]; exact g2 _ (readable_map _), (flat phys0).length, ?_, ?_, by omega⟩
    · rw [← h4, h2, g1]; simp
    · rw [h1, flatE_map, ← h4, h2, g1]; simp
  rcases h with ⟨_, h⟩ | ⟨_, h, _⟩ | ⟨_, h⟩ | ⟨_, h⟩ | ⟨_, h1, h2, h3⟩ | ⟨_, h⟩
  · exact idle h.1 h.2.1 (Nat.le_of_eq h.2.2)
  · exact idle h.1 h.2.1 (Nat.le_of_eq h.2.2)
  · exact mid h
  · exact mid h
  · exact idle h1 h2 h3
  · exact idle h.1 h.2.1 (Nat.le_of_eq h.2.2)

structure Inv (s : Sys) : Prop where
  phase : Phase s
  rd_len : ∀ l, s.rL = some l → l ≤ s.pub
  rd_idx : ∀ idx, s.rIdx = some idx →
    Readable s.phys idx ∧ ∃ n, n ≤ s.seq.length ∧ flatE idx = s.seq.take n ∧ ∀ l, s.rL = some l → l ≤ n

theorem inv_init : Inv Sys.init :=
  ⟨Or.inl ⟨rfl, rfl, rfl, rfl⟩, by simp [Sys.init], by simp [Sys.init]⟩

theorem step_inv (s : Sys) (a : Act) (h : Inv s)
    (hp : ∀ k p, a = .wStart k p → p = prog ∧ GoodKind s.phys k) : Inv (step s a).1 := by
  cases a with
  | wStart k p =>
    simp only [step]
    split
    · rename_i hidle
      obtain ⟨rfl, hg⟩ := hp k p rfl
      rcases h.phase with ⟨_, hi⟩ | ⟨h0, _⟩ | ⟨h0, _⟩ | ⟨h0, _⟩ | ⟨h0, _⟩ | ⟨h0, _⟩ <;>
        (try (simp [hidle, prog] at h0; done))
      exact ⟨Or.inr (Or.inl ⟨rfl, hi, hg⟩), h.rd_len, h.rd_idx⟩
    · exact h
  | wStep =>
    simp only [step]
    rcases h.phase with ⟨h0, hi⟩ | ⟨h0, hi, hg⟩ | ⟨h0, hm⟩ | ⟨h0, hm⟩ | ⟨h0, h1, h2, h3⟩ | ⟨h0, hi⟩
    · simp only [h0]; exact h
    · -- dataWrite
      simp only [h0, prog, eff]
      obtain ⟨i1, i2, i3⟩ := hi
      obtain ⟨g1, g2, _⟩ := physAfter_good s.phys s.kind hg
      refine ⟨Or.inr (Or.inr (Or.inl ⟨rfl, s.phys, i1, rfl, hg, ?_, ?_⟩)), h.rd_len, ?_⟩
      · rw [g1, i2]
      · rw [i2]; exact i3
      · intro idx hidx
        obtain ⟨r1, n, r2, r3, r4⟩ := h.rd_idx idx hidx
        refine ⟨g2 idx r1, n, by simp only [List.length_append]; omega, ?_, r4⟩
        rw [List.take_append_of_le_length r2]; exact r3
    · -- lockIndex (possibly blocked by the reader)
      simp only [h0]
      split
      · exact h
      · exact ⟨Or.inr (Or.inr (Or.inr (Or.inl ⟨rfl, hm⟩))), h.rd_len, h.rd_idx⟩
    · -- indexUpdate
      simp only [h0, eff]
      obtain ⟨phys0, m1, m2, m3, m4, m5⟩ := hm
      obtain ⟨g1, _, g3⟩ := physAfter_good phys0 s.kind m3
      refine ⟨Or.inr (Or.inr (Or.inr (Or.inr (Or.inl ⟨rfl, ?_, m4, ?_⟩)))), h.rd_len, h.rd_idx⟩
      · rw [m1, m2]; exact g3
      · rw [m5, ← m4, m2, g1]; simp
    · -- publish
      simp only [h0, eff]
      refine ⟨Or.inr (Or.inr (Or.inr (Or.inr (Or.inr ⟨rfl, h1, h2, rfl⟩)))), ?_, h.rd_idx⟩
      intro l hl; have := h.rd_len l hl; simp only; omega
    · -- unlockIndex
      simp only [h0, eff]
      exact ⟨Or.inl ⟨rfl, hi⟩, h.rd_len, h.rd_idx⟩
  | rLoad =>
    simp only [step]
    split
    · exact h
    · exact ⟨h.phase, by intro l hl; simp only [Option.some.injEq] at hl; simp only; omega, by intro idx hidx; simp at hidx⟩
  | rLock =>
    simp only [step]
    cases hl : s.rL with
    | none => exact h
    | some l =>
      simp only
      split
      · exact h
      · obtain ⟨r1, n, r2, r3, r4⟩ := phase_index s h.phase
        refine ⟨h.phase, by simpa [hl] using h.rd_len, ?_⟩
        intro idx hidx
        simp only [Option.some.injEq] at hidx
        subst hidx
        refine ⟨r1, n, r2, r3, ?_⟩
        intro l' hl'
        have := h.rd_len l' (by rw [hl]; exact hl')
        omega
  | rReadAll =>
    simp only [step]
    split <;> exact h
  | rUnlock =>
    simp only [step]
    exact ⟨h.phase, by intro l hl; simp at hl, by intro idx hidx; simp at hidx⟩

/-- every write of the run uses the extracted program and is of a kind that leaves indexed pages decodable -/
def GoodRun : Sys → List Act → Prop
  | _, [] => True
  | s, a :: as => (∀ k p, a = Act.wStart k p → p = prog ∧ GoodKind s.phys k) ∧ GoodRun (step s a).1 as

theorem run_inv (s : Sys) (as : List Act) (h : Inv s) (hg : GoodRun s as) : Inv (run s as) := by
  induction as generalizing s with
  | nil => exact h
  | cons a t ih => exact ih _ (step_inv s a h hg.1) hg.2

theorem C09_comp_read_partial (as : List Act) (hg : GoodRun Sys.init as) (l : Nat) (idx : List Ent)
    (hl : (run Sys.init as).rL = some l) (hi : (run Sys.init as).rIdx = some idx) :
    (step (run Sys.init as) .rReadAll).2 = some (some ((run Sys.init as).seq.take l)) ∧ l ≤ (run Sys.init as).seq.length := by
  have h := run_inv Sys.init as inv_init hg
  obtain ⟨r1, n, r2, r3, r4⟩ := h.rd_idx idx hi
  have hln := r4 l hl
  simp only [step, hl, hi, readAll, readPages_of_readable _ _ r1, r3]
  have : l ≤ (List.take n (run Sys.init as).seq).length := by simp; omega
  simp only [this, if_true]
  refine ⟨?_, by omega⟩
  rw [List.take_take]; congr 3; omega

theorem pub_mono_step (s : Sys) (a : Act) (h : Inv s) : s.pub ≤ (step s a).1.pub := by
  cases a with
  | wStart k p => simp only [step]; split <;> simp
  | wStep =>
    simp only [step]
    rcases h.phase with ⟨h0, _⟩ | ⟨h0, _⟩ | ⟨h0, _⟩ | ⟨h0, _⟩ | ⟨h0, _, _, h3⟩ | ⟨h0, _⟩
    · simp [h0]
    · simp [h0, prog, eff]
    · simp only [h0]; split <;> simp [eff]
    · simp [h0, eff]
    · simp only [h0, eff]; exact h3
    · simp [h0, eff]
  | rLoad => simp only [step]; split <;> simp
  | rLock => simp only [step]; split <;> (try split) <;> simp
  | rReadAll => simp only [step]; split <;> simp
  | rUnlock => simp [step]

/-- F17, with page size 4: the tail page holds [1,2] raw, the reader takes the index, the writer appends [3,4,5] -/
theorem C09_comp_counterexample :
    (step (run Sys.init [.wStart (.append [⟨true, [1, 2]⟩]) prog, .wStep, .wStep, .wStep, .wStep, .wStep,
        .rLoad, .rLock,
        .wStart (.rewriteTail [⟨false, [1, 2, 3, 4]⟩, ⟨true, [5]⟩]) prog, .wStep]) .rReadAll).2 = some none := by
  decide

theorem C09_comp_reordered_counterexample :
    (step (run Sys.init [.wStart (.append [⟨true, [1, 2]⟩]) prog, .wStep, .wStep, .wStep, .wStep, .wStep,
        .wStart (.extendTail [3]) [.dataWrite, .publish, .lockIndex, .indexUpdate, .unlockIndex], .wStep, .wStep,
        .rLoad, .rLock]) .rReadAll).2 = some none := by
  decide

-- non-vacuity: a reader that holds the old index across a tail extension still reads its prefix
example : (step (run Sys.init [.wStart (.append [⟨true, [1, 2]⟩]) prog, .wStep, .wStep, .wStep, .wStep, .wStep,
    .rLoad, .rLock, .wStart (.extendTail [3]) prog, .wStep]) .rReadAll).2 = some (some [1, 2]) := by decide
end AnyDB.PublishC
