import AnyDB.Lemmas.AllocBridge
import AnyDB.Lemmas.RawdbSteps

/-!
# C02 — region extents never overlap; free space is fully accounted and reused

The allocator of `rawdb/src/layout.rs` + the placement paths of `region.rs`/`lib.rs`, as modelled
in `AnyDB/Model/Rawdb.lean` (`bestFit`, `removeOrCompress`, `promoteOne`/`promote`,
`placeRelocation`, `create`, `setMinLen`, `flush`).

What is proved here, one call at a time (for *all* hole lists, sizes and states — no bound):

* `C02_promote`   — promoting any batch of deferred holes (what `flush` does) keeps the free list
                    well formed (positive, pairwise disjoint, **no two adjacent: merged**), covers
                    exactly the old free bytes plus the promoted ones (**nothing lost, nothing
                    double-booked**) and stays disjoint from everything the inputs were disjoint
                    from (so live regions are never overlapped by a promoted hole);
* `C02_split`     — carving `n` bytes off the front of a hole (placement into free space, growth
                    into the adjacent hole) keeps the free list well formed and removes exactly
                    `[start, start+n)` from the free bytes;
* `C02_best_fit`  — the hole chosen for a placement is adequate and no adequate hole is smaller;
* `C02_place_reuses` — a relocation is placed in free space, and the file does not grow, whenever
                    an adequate hole exists (same for `create`: `C02_create_reuses`);
* `C02_place_end` — it is placed at the end of the allocated area only when none does;
* `C02_growth`    — `set_min_len` never shrinks, reaches the request, and grows
                    to `max(request, 2·current, 1 MiB)` rounded up to a page;
* `C02_flush_promotes` — after `flush` no deferred hole is left and the free list is the promoted one.

The whole-database invariant (regions ∪ holes ∪ pending ∪ reservations pairwise disjoint and
covering `[0, Layout::len)`) is *checked on the implementation's real layout after every request*
by an independent checker in the harness (`rawdb_engine.rs: c02_of`) and the model's layout
is compared with the real one field by field; its Lean proof, for every history without `reopen`, is in
`Props/C02Run.lean` (`C02_history_partial`, `C02_history_accounted`, `C02_history_aligned`), with `reopen` at any point in
`Props/C01All.lean` (`C02_history_all`).
-/
namespace AnyDB.C02
open Alloc Gen

/-- promotion of deferred holes (`Layout::promote_pending_holes`) -/
theorem C02_promote (hs pending : List (Nat × Nat)) (hI : HolesOK hs)
    (hpp : ∀ p ∈ pending, 0 < p.2)
    (hph : ∀ p ∈ pending, ∀ a ∈ hs, pdisj a p)
    (hpd : pending.Pairwise pdisj) :
    HolesOK (promote hs pending) ∧
    (∀ x, covers (promote hs pending) x ↔ covers hs x ∨ covers pending x) ∧
    (∀ q : Nat × Nat, 0 < q.2 → (∀ a ∈ hs, pdisj a q) → (∀ p ∈ pending, pdisj p q) →
        ∀ a ∈ promote hs pending, pdisj a q) := by
  have key := promote_inv (toExts pending) (toExts hs) hI
    (by intro p hp; obtain ⟨q, hq, rfl⟩ := List.mem_map.mp hp; exact hpp q hq)
    (by intro p hp a ha
        obtain ⟨q, hq, rfl⟩ := List.mem_map.mp hp
        obtain ⟨b, hb, rfl⟩ := List.mem_map.mp ha
        simpa [disj, pdisj] using hph q hq b hb)
    (by unfold toExts; rw [List.pairwise_map]
        exact hpd.imp (by intro a b h; simpa [disj, pdisj] using h))
  rw [← promote_map] at key
  obtain ⟨k1, k2, k3⟩ := key
  refine ⟨k1, ?_, ?_⟩
  · intro x; rw [covers_iff, covers_iff, covers_iff]; exact k2 x
  · intro q hq h1 h2 a ha
    have := k3 (toExt q) hq
      (by intro b hb; obtain ⟨c, hc, rfl⟩ := List.mem_map.mp hb; simpa [disj, pdisj] using h1 c hc)
      (by intro b hb; obtain ⟨c, hc, rfl⟩ := List.mem_map.mp hb; simpa [disj, pdisj] using h2 c hc)
      (toExt a) (List.mem_map.mpr ⟨a, ha, rfl⟩)
    simpa [disj, pdisj] using this

/-- hole split (`Layout::remove_or_compress_hole`) -/
theorem C02_split {hs hs' : List (Nat × Nat)} {start n sz : Nat}
    (hI : HolesOK hs) (hg : alGet hs start = some sz) (hn : 0 < n)
    (h : removeOrCompress hs start n = .ok hs') :
    n ≤ sz ∧ HolesOK hs' ∧
    (∀ x, covers hs' x ↔ covers hs x ∧ ¬ (start ≤ x ∧ x < start + n)) ∧
    (∀ q : Nat × Nat, (∀ a ∈ hs, pdisj a q) → ∀ a ∈ hs', pdisj a q) :=
  removeOrCompress_ok hI hg hn h

/-- `find_smallest_adequate_hole` is best fit -/
theorem C02_best_fit {hs : List (Nat × Nat)} {need s : Nat} (h : bestFit hs need = some s) :
    ∃ b ∈ hs, b.1 = s ∧ need ≤ b.2 ∧ ∀ h ∈ hs, need ≤ h.2 → b.2 ≤ h.2 :=
  bestFit_some h

/-- relocation: free space is used whenever an adequate hole exists, and then the file does not grow -/
theorem C02_place_reuses (s s' : Db) (need start : Nat)
    (hex : ∃ e ∈ s.holes, need ≤ e.2)
    (h : s.placeRelocation need = .ok (s', start)) :
    (∃ e ∈ s.holes, e.1 = start ∧ need ≤ e.2 ∧ ∀ h ∈ s.holes, need ≤ h.2 → e.2 ≤ h.2) ∧
    s'.fileLen = s.fileLen ∧ (start, need) ∈ s'.reserved := by
  rcases Db.placeRelocation_placed h with ⟨hs, hb, _, rfl⟩ | ⟨hb, _⟩
  · exact ⟨bestFit_some hb, rfl, List.mem_append_right _ (List.mem_singleton.mpr rfl)⟩
  · obtain ⟨e, he, hne⟩ := hex
    have := bestFit_none hb e he
    omega

/-- relocation goes to the end of the allocated area only when no hole is adequate -/
theorem C02_place_end (s s' : Db) (need start : Nat)
    (hno : ∀ e ∈ s.holes, e.2 < need)
    (h : s.placeRelocation need = .ok (s', start)) :
    start = s.layoutLen ∧ s'.holes = s.holes := by
  rcases Db.placeRelocation_placed h with ⟨_, hb, _⟩ | ⟨_, rfl, rfl⟩
  · obtain ⟨b, hbm, _, hsz, _⟩ := bestFit_some hb
    have := hno b hbm
    omega
  · exact ⟨rfl, (Db.setMinLen_rest _ _).2.2.2.1⟩

/-- creation: a one-page hole is used whenever one exists, and then the file does not grow -/
theorem C02_create_reuses (s : Db) (id : RegionId) (hnew : s.findId id = none)
    (hex : ∃ e ∈ s.holes, PAGE_SIZE ≤ e.2) :
    (s.create id).1.fileLen = s.fileLen := by
  obtain ⟨e, he, hsz⟩ := hex
  -- a hole is found: no growth before the placement
  have hfound : bestFit s.holes PAGE_SIZE ≠ none := fun hb => by have := bestFit_none hb e he; omega
  have hpre : Db.createPre s = s := Db.createPre_cases (P := (· = s)) s (fun _ => rfl) (fun hb => absurd hb hfound)
  -- nothing after the placement touches the file length
  have hat : ∀ (hs : List (Nat × Nat)) (start : Nat), (Db.createAt { s with holes := hs } id start).1.fileLen = s.fileLen :=
    fun hs start => Db.createAt_cases (P := fun r => r.1.fileLen = s.fileLen) _ id start (fun _ => rfl)
      (fun _ => (Db.added_rest _ _ _ _).2.2.2.1)
  refine Db.create_cases (P := fun r => r.1.fileLen = s.fileLen) s id (fun _ hf => nomatch hnew.symm.trans hf) ?_ ?_ ?_
  all_goals rw [hpre]
  · exact fun _ _ _ _ _ => rfl
  · exact fun _ hs _ _ _ => hat hs _
  · exact fun _ hb => absurd hb hfound

/-- `Database::set_min_len` growth rule -/
theorem C02_growth (s : Db) (n : Nat) :
    s.fileLen ≤ (s.setMinLen n).fileLen ∧ n ≤ (s.setMinLen n).fileLen ∧
    (s.fileLen < ceilPage n →
      (s.setMinLen n).fileLen = ceilPage (max (max (ceilPage n) (s.fileLen * GROW_FACTOR)) GROW_FLOOR)) ∧
    (ceilPage n ≤ s.fileLen → (s.setMinLen n).fileLen = s.fileLen) := by
  refine ⟨?_, Db.le_fileLen_setMinLen s n, fun h => ?_, fun h => ?_⟩
  · rcases Db.setMinLen_eq s n with ⟨_, e⟩ | ⟨k, hk, _, e⟩ <;> rw [e]
    · exact Nat.le_refl _
    · exact Nat.le_of_lt hk
  · rw [Db.fileLen_setMinLen, if_neg (Nat.not_le_of_lt h)]
  · rw [Db.fileLen_setMinLen, if_pos h]

/-- `flush` leaves no deferred hole behind: the free list is the promoted one -/
theorem C02_flush_promotes (s : Db) :
    (s.flush).1.pending = [] ∧ (s.flush).1.holes = promote s.holes s.pending := by
  -- before the promotion `flush` touches flags and the log only
  obtain ⟨sl', evs, _, _, e⟩ := Db.flagsOnly_flushPre s
  rw [Db.flush_eq, e]
  exact ⟨rfl, rfl⟩

/-- non-vacuity: a fragmented free list with two deferred holes adjacent to it on both sides -/
example : HolesOK [(0, 4096), (16384, 8192)] := by
  rw [holesOK_iff]
  unfold pdisj
  decide

example : promote [(0, 4096), (16384, 8192)] [(4096, 4096), (12288, 4096)] = [(0, 8192), (12288, 12288)] := by
  decide

example : bestFit [(0, 8192), (40960, 4096), (81920, 4096)] 4096 = some 40960 := by decide

end AnyDB.C02
