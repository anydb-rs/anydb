import AnyDB.Lemmas.RawdbSteps
import AnyDB.Generated.Orders

/-!
# C12 — compaction only ever discards bytes nobody can reach

Model: `Db.compact` = `Db.flush` then `Db.punchHoles` (`AnyDB/Model/Rawdb.lean`): one candidate range per
live region — the unused tail of its reserve `[start + ceilPage len, start + reserved)` — and one per free
extent; a candidate is punched when the sampling heuristic sees data in it.

* `C12_meta_unchanged`   — `punch_holes` changes no slot, no layout map and not the file length
                            (`KEEP_SIZE`): length, name and placement of every live region are untouched;
* `C12_frame`            — every byte range that is disjoint from all candidate ranges reads the same before
                            and after `punch_holes`;
* `C12_tail_above_data`  — the tail candidate of a region starts at or above the end of its contents and on a
                            page boundary: no live byte of the region shares a page with a punched byte;
* `C12_compact_len`      — `compact` never changes the logical file length;
* `C12_order`            — `compact` flushes first (extracted order), and by `C05_order` freed extents are
                            promoted — hence become candidates — only after the metadata sync that made their
                            release durable (this was violated on the no-dirty-region path: F10, repaired).

Free extents are disjoint from live regions by C02's invariant; that hypothesis of `C12_frame` is checked on
the real layout before every `compact` by the crash engine, which also verifies on the implementation that
bytes/length/placement of every live region and the file length are unchanged and that every punched range
lies in a free extent or a reserve tail, at every crash point inside `compact` (C05 oracles).
-/
namespace AnyDB.C12
open Mem Gen

/-- fields other than the bytes and the event log -/
def sameMeta (a b : Db) : Prop :=
  a.fileLen = b.fileLen ∧ a.slots = b.slots ∧ a.rfile = b.rfile ∧ a.regions = b.regions ∧ a.holes = b.holes ∧
  a.reserved = b.reserved ∧ a.pending = b.pending ∧ a.mem.size = b.mem.size

/-- candidate ranges of `punch_holes` -/
def tailOf (sl : Slot) : Nat × Nat := (sl.md.start + ceilPage sl.md.len, sl.md.reserved - ceilPage sl.md.len)

def disjointFrom (o l : Nat) (r : Nat × Nat) : Prop := o + l ≤ r.1 ∨ r.1 + r.2 ≤ o

theorem C12_meta_unchanged (s : Db) : sameMeta s.punchHoles s := Db.punchHoles_rest s

theorem C12_frame (s : Db) (o l : Nat)
    (htails : ∀ i sl, s.slot? i = some sl → disjointFrom o l (tailOf sl))
    (hholes : ∀ h ∈ s.holes, disjointFrom o l h) :
    s.punchHoles.mem.read o l = s.mem.read o l := by
  refine Db.punchHoles_ind (P := fun t => t.mem.read o l = s.mem.read o l) s rfl (fun t r hr hp => ?_) (fun _ h => h)
  -- every range offered is a tail or a free extent
  have hd : disjointFrom o l r := by
    rcases hr with ⟨i, sl, hs, _, rfl⟩ | hh
    · exact htails i sl hs
    · exact hholes r hh
  exact (read_punch_frame _ _ _ _ _ hd).trans hp

theorem C12_tail_above_data (sl : Slot) (hal : sl.md.start % PAGE_SIZE = 0) :
    disjointFrom sl.md.start sl.md.len (tailOf sl) ∧ (tailOf sl).1 % PAGE_SIZE = 0 := by
  have h1 := le_ceilPage sl.md.len
  have h2 := ceilPage_mod sl.md.len
  unfold disjointFrom tailOf
  simp only [PAGE_SIZE] at *
  constructor
  · left; omega
  · omega

theorem flush_fileLen (s : Db) : (s.flush).1.fileLen = s.fileLen := by
  obtain ⟨sl', evs, _, _, e⟩ := Db.flagsOnly_flushPre s
  rw [Db.flush_eq, e]

theorem C12_compact_len (s : Db) : (s.compact).1.fileLen = s.fileLen := by
  rw [Db.compact_eq, (C12_meta_unchanged _).1, flush_fileLen]

theorem C12_order : compactOrder = ["flush", "punchHoles"] := by decide

/-- non-vacuity: one region with 1 byte in a 3-page reserve, one free page behind it -/
example : tailOf { md := { start := 0, len := 1, reserved := 12288, id := [97] }, st := .clean, dmin := USIZE_MAX, dmax := 0 } = (4096, 8192) := by decide

end AnyDB.C12
