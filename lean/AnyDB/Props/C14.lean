import AnyDB.Model.Import

/-!
# C14 — import keeps matching data; discards only on a real version/format change

Model: `AnyDB/Model/Import.lean`.

* `C14_same_entry_kept`     — same user version, same format, SAME entry point as at creation ⇒ the
                               stored contents are returned (plain→plain and forced→forced);
* `C14_plain_mismatch_untouched` — a plain import whose effective version or format differs fails with
                               `errVersion` or `errFormat` (which of the two is not said) and leaves the stored
                               data exactly as it was;
* `C14_forced_discards_iff` — a forced import discards stored data if and only if the stored effective version
                               or format differs from the requested one, i.e. `verify` fails with
                               DifferentVersion / DifferentFormat.  The model has no other path to `discarded`;
                               the source's reset arms are four (`C14_reset_arms`: also WrongEndian and
                               WrongLength, which the model's `verify` cannot produce), and lock and I/O errors
                               are propagated by `forced_import_with`'s `_ => res` arm, which the extractor pins;
* `C14_corrupt_refused`     — matching header but a region length that is no multiple of the element size (raw formats):
                               refused with CorruptedRegion through both entry points, nothing removed;
* `C14_forced_result_empty` — after a forced import with a mismatch an empty vector of the requested
                               version and format is stored;
* `C14_nothing_stored`      — with nothing stored either entry point creates a fresh vector;
* `C14_full` / `C14_counterexample` / `C14_partial` — the full statement ("same user version and format ⇒
                               kept, through either entry point") is FALSE of the code: creating with the
                               plain entry point and reopening with the forced one (or vice versa) with the
                               very same user version compares `v + L` with `v + 2L` (known finding F2);
                               it holds whenever creation and reopening use the same entry point.
                               `C14_counterexample_rev`: the other way round the plain import refuses with
                               DifferentVersion; `C14_double_add`: the two additions, counted on the extracted
                               call structure of both entry points.
-/
namespace AnyDB.C14
open AnyDB Import Codec

/-- a vector created through entry `e` with user version `v`, format `f`, then filled with `n` elements -/
def created (e : Entry) (v : Nat) (f : Format) (n : Nat) : Stored :=
  { version := effectiveVersion e f v, format := f, len := n }

theorem C14_same_entry_kept (e : Entry) (v n : Nat) (f : Format) :
    importVec (some (created e v f n)) e v f = (.kept n, some (created e v f n)) := by
  unfold importVec verify created
  simp

theorem C14_plain_mismatch_untouched (s : Stored) (v : Nat) (f : Format)
    (h : s.version ≠ effectiveVersion .plain f v ∨ s.format ≠ f) :
    ((importVec (some s) .plain v f).1 = .errVersion ∨ (importVec (some s) .plain v f).1 = .errFormat) ∧
    (importVec (some s) .plain v f).2 = some s := by
  unfold importVec verify
  by_cases h1 : s.version ≠ effectiveVersion .plain f v
  · simp [h1]
  · rcases h with h | h
    · exact absurd h h1
    · simp [h1, h]

theorem C14_forced_discards_iff (s : Stored) (v : Nat) (f : Format) :
    (importVec (some s) .forced v f).1 = .discarded ↔ (s.version ≠ effectiveVersion .forced f v ∨ s.format ≠ f) := by
  unfold importVec verify
  by_cases h1 : s.version ≠ effectiveVersion .forced f v
  · simp [h1]
  · by_cases h2 : s.format ≠ f
    · simp [h1, h2]
    · simp [h1, h2]
      split <;> simp

theorem C14_forced_result_empty (s : Stored) (v : Nat) (f : Format)
    (h : (importVec (some s) .forced v f).1 = .discarded) :
    (importVec (some s) .forced v f).2 = some { version := effectiveVersion .forced f v, format := f, len := 0 } := by
  unfold importVec verify at h ⊢
  by_cases h1 : s.version ≠ effectiveVersion .forced f v
  · simp [h1]
  · by_cases h2 : s.format ≠ f
    · simp [h1, h2]
    · simp [h1, h2] at h
      split at h <;> simp at h

theorem C14_corrupt_refused (s : Stored) (e : Entry) (v : Nat) (f : Format)
    (hv : s.version = effectiveVersion e f v) (hf : s.format = f) (hc : s.corrupt = true) (hr : isRaw f = true) :
    importVec (some s) e v f = (.errCorrupt, some s) := by
  unfold importVec verify
  simp [hv, hf, hc, hr]

theorem C14_nothing_stored (e : Entry) (v : Nat) (f : Format) : (importVec none e v f).1 = .fresh := rfl

/-- the property as stated: same user version and format ⇒ kept, whatever the entry points -/
def C14_full : Prop :=
  ∀ (e₁ e₂ : Entry) (v n : Nat) (f : Format), (importVec (some (created e₁ v f n)) e₂ v f).1 = .kept n

/-- F2: created through `import`, reopened through `forced_import` with the same version ⇒ discarded -/
theorem C14_counterexample : ¬ C14_full := by
  intro h
  have := h .plain .forced 1 10 .bytes
  revert this
  decide

/-- … and the other way round the plain import refuses with DifferentVersion -/
theorem C14_counterexample_rev : (importVec (some (created .forced 1 .pco 10)) .plain 1 .pco).1 = .errVersion := by
  decide

theorem C14_partial (e : Entry) (v n : Nat) (f : Format) : (importVec (some (created e v f n)) e v f).1 = .kept n := by
  rw [C14_same_entry_kept]

/-- the forced entry point removes stored data exactly on the four listed error kinds; every other
    error (lock, I/O) is returned unchanged by its `_ => res` arm — pinned on the extracted match arms -/
theorem C14_reset_arms :
    Gen.rawResetArms = ["WrongEndian", "WrongLength", "DifferentFormat", "DifferentVersion"] ∧
    Gen.compResetArms = ["WrongEndian", "WrongLength", "DifferentFormat", "DifferentVersion"] ∧
    Gen.headerVerifyOrder = ["headerVersion", "vecVersion", "format"] :=
  ⟨rfl, rfl, rfl⟩

/-- the double addition behind F2, on the extracted call structure -/
theorem C14_double_add : forcedAdds .bytes = 2 ∧ plainAdds .bytes = 1 ∧ forcedAdds .pco = 2 ∧ plainAdds .pco = 1 := by decide

end AnyDB.C14
