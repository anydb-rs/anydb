import AnyDB.Model.OpenLock

/-!
# C18 — at most one open Database per directory

Model: `AnyDB/Model/OpenLock.lean` — the file effects of `Database::open_with_min_len` and
`Regions::open` IN THE ORDER EXTRACTED FROM THE SOURCE, over two files with one exclusive advisory lock
each.

* `C18_effects`          — the extracted effect sequence (pinned: an edit that reorders `try_lock`, `set_len`
                            or switches to `truncate(true)` changes this list and re-opens the proofs below);
* `C18_refused_pure`     — while a holder has the data file locked, an open attempt — with ANY `min_len`, below
                            or above the current size — fails with the lock error and leaves both files' lengths
                            (and locks) exactly as they were: nothing is created, grown or truncated;
* `C18_refused_regions`  — when only the metadata file is still locked the attempt fails with the lock error too and leaves
                            the metadata file as it was (the data file has by then been locked and grown to `min_len`:
                            `openAttempt_eq`; no history reaches such a state, `run_inv`);
* `C18_exclusive`        — after a successful open both files are locked, so every further attempt is refused
                            (at most one live open per directory, whatever the order of attempts);
* `C18_opens_when_free`  — with no holder the attempt succeeds, never shrinks the data file and grows it to
                            `min_len` at most;
* `C18_history_refused`, `C18_history_reopen`, `C18_at_most_one` — the same over EVERY history of opens, probes,
                            references, drops and flushed writes (`Dir`, `step`, `run` of the model).

What the model cannot exhibit: the kernel's lock semantics (exclusive per open file description,
released at close) and the lifetime of the holder's handles inside the process (`Arc`, background
tasks) — both are exercised by the open-lock engine: second opens from another thread and from a child
process while the holder is alive through a Database clone, a Region, a Reader or a background task,
`open_with_min_len` below and above the current size, byte-for-byte file comparison before/after each
refused attempt, then drop everything and reopen (sees the flushed data).
-/
namespace AnyDB.C18
open AnyDB OpenLock Gen

theorem C18_effects :
    effects = [(true, "createDirAll"), (true, "openCreate"), (true, "openTruncateFalse"), (true, "tryLock"), (true, "setLen"),
      (true, "syncAll"), (false, "createDirAll"), (false, "openCreate"), (false, "openTruncateFalse"), (false, "tryLock"),
      (false, "createMmap"), (true, "createMmap"), (true, "fill"), (true, "layoutFrom")] := by
  decide

/-- the whole attempt in closed form: of the extracted effects only the two `tryLock`s and the `setLen` between them
act on the files -/
theorem openAttempt_eq (fs : Fs) (minLen : Nat) : openAttempt fs minLen =
    if fs.data.locked then (fs, .tryLockError)
    else if fs.regions.locked then
      ({ fs with data := { fs.data with locked := true, len := max fs.data.len minLen } }, .tryLockError)
    else ({ data := { fs.data with locked := true, len := max fs.data.len minLen },
            regions := { fs.regions with locked := true } }, .opened) := by
  unfold openAttempt
  rw [C18_effects]
  cases hd : fs.data.locked <;> cases hr : fs.regions.locked <;> simp [runEffects, effect, hd, hr]

theorem C18_refused_pure (fs : Fs) (minLen : Nat) (h : fs.data.locked = true) :
    openAttempt fs minLen = (fs, .tryLockError) := by
  rw [openAttempt_eq, if_pos h]

theorem C18_refused_regions (fs : Fs) (minLen : Nat) (hd : fs.data.locked = false) (hr : fs.regions.locked = true) :
    (openAttempt fs minLen).2 = .tryLockError ∧ (openAttempt fs minLen).1.regions = fs.regions := by
  rw [openAttempt_eq, if_neg (by simp [hd]), if_pos hr]
  exact ⟨rfl, rfl⟩

theorem C18_opens_when_free (fs : Fs) (minLen : Nat) (hd : fs.data.locked = false) (hr : fs.regions.locked = false) :
    (openAttempt fs minLen).2 = .opened ∧
    (openAttempt fs minLen).1.data.locked = true ∧ (openAttempt fs minLen).1.regions.locked = true ∧
    (openAttempt fs minLen).1.data.len = max fs.data.len minLen ∧ (openAttempt fs minLen).1.regions.len = fs.regions.len := by
  rw [openAttempt_eq, if_neg (by simp [hd]), if_neg (by simp [hr])]
  exact ⟨rfl, rfl, rfl, rfl, rfl⟩

theorem C18_exclusive (fs : Fs) (m1 m2 : Nat) (hd : fs.data.locked = false) (hr : fs.regions.locked = false) :
    openAttempt (openAttempt fs m1).1 m2 = ((openAttempt fs m1).1, .tryLockError) :=
  C18_refused_pure _ m2 (C18_opens_when_free fs m1 hd hr).2.1

example : openAttempt { data := { len := 1048576, ver := 3, locked := true }, regions := { len := 8192, ver := 0, locked := true } } (8 * 1048576)
    = ({ data := { len := 1048576, ver := 3, locked := true }, regions := { len := 8192, ver := 0, locked := true } }, .tryLockError) := by decide

/-- both files are locked exactly while somebody still references the holder -/
def Inv (d : Dir) : Prop :=
  d.fs.data.locked = decide (d.holders > 0) ∧ d.fs.regions.locked = decide (d.holders > 0)

theorem inv_init : Inv Dir.init := by simp [Inv, Dir.init]

theorem openAttempt_of_inv (d : Dir) (m : Nat) (h : Inv d) : openAttempt d.fs m =
    if d.holders > 0 then (d.fs, .tryLockError)
    else ({ data := { d.fs.data with locked := true, len := max d.fs.data.len m },
            regions := { d.fs.regions with locked := true } }, .opened) := by
  rw [openAttempt_eq, h.1, h.2]
  by_cases hh : d.holders > 0 <;> simp [hh]

theorem step_inv (d : Dir) (o : Op) (h : Inv d) : Inv (step d o).1 := by
  have ⟨h1, h2⟩ := h
  cases o with
  | openKeep m =>
    by_cases hh : d.holders > 0
    · simp only [step, openAttempt_of_inv d m h, if_pos hh]
      exact h
    · simp [step, openAttempt_of_inv d m h, if_neg hh, Inv]
  | probe m =>
    by_cases hh : d.holders > 0
    · simp only [step, openAttempt_of_inv d m h, if_pos hh]
      exact h
    · simp [step, openAttempt_of_inv d m h, Inv, unlock, hh]
  | addRef =>
    simp only [step]; split
    · simp [Inv, *]
    · exact ⟨h1, h2⟩
  | dropRef =>
    simp only [step]; split
    · exact ⟨h1, h2⟩
    · split
      · simp [Inv, unlock]
      · have : d.holders - 1 > 0 := by omega
        have h0 : d.holders > 0 := by omega
        simp [Inv, h1, h2, this, h0]
  | touch v =>
    simp only [step]; split
    · simp [Inv, *]
    · exact ⟨h1, h2⟩

theorem run_inv (d : Dir) (os : List Op) (h : Inv d) : Inv (run d os) := by
  induction os generalizing d with
  | nil => exact h
  | cons o os ih => exact ih _ (step_inv d o h)

/-- C18, first sentence, for EVERY history: in any state reached from an empty directory by any sequence of
opens (kept or dropped at once, from anywhere), clones/readers/region-derived references, drops and flushed
writes, an open attempt made while at least one reference to the holder is alive is refused and leaves
the directory — lengths, contents, locks — and the holder exactly as they were, whatever `min_len` is. -/
theorem C18_history_refused (os : List Op) (m : Nat) (h : (run Dir.init os).holders > 0) :
    step (run Dir.init os) (.openKeep m) = (run Dir.init os, .refused) ∧
    step (run Dir.init os) (.probe m) = (run Dir.init os, .refused) := by
  simp only [step, openAttempt_of_inv _ m (run_inv Dir.init os inv_init), if_pos h, and_self]

/-- C18, second sentence, for EVERY history: once every reference is gone, an open succeeds, sees exactly the
content the previous holder flushed, does not shrink the file and grows it to `min_len` at most. -/
theorem C18_history_reopen (os : List Op) (m : Nat) (h : (run Dir.init os).holders = 0) :
    (step (run Dir.init os) (.openKeep m)).2 = .opened (run Dir.init os).fs.data.ver ∧
    (step (run Dir.init os) (.openKeep m)).1.holders = 1 ∧
    (step (run Dir.init os) (.openKeep m)).1.fs.data.len = max (run Dir.init os).fs.data.len m := by
  have h0 : ¬ (run Dir.init os).holders > 0 := by omega
  simp only [step, openAttempt_of_inv _ m (run_inv Dir.init os inv_init), if_neg h0, and_self]

/-- the number of live instances never exceeds one: a kept open succeeds only from `holders = 0` -/
theorem C18_at_most_one (os : List Op) (m v : Nat) (d' : Dir) :
    step (run Dir.init os) (.openKeep m) = (d', .opened v) → (run Dir.init os).holders = 0 := by
  intro hs
  by_cases h : (run Dir.init os).holders > 0
  · rw [(C18_history_refused os m h).1] at hs; cases hs
  · omega

-- non-vacuity: a holder with a clone, a refused probe above the current size, then everything dropped and a reopen
example : (run Dir.init [.openKeep 0, .touch 7, .addRef, .probe 8388608, .dropRef]).holders = 1 := by decide
example : step (run Dir.init [.openKeep 0, .touch 7, .addRef, .dropRef, .dropRef]) (.openKeep 8192)
    = ({ fs := { data := { len := 1048576, ver := 7, locked := true }, regions := { len := 0, ver := 0, locked := true } }, holders := 1 }, .opened 7) := by decide

end AnyDB.C18
