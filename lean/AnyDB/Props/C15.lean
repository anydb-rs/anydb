import AnyDB.Model.Lazy

/-!
# C15 — lazy vectors equal their defining formula through every read path

Model: `AnyDB/Model/Lazy.lean` — `LazyVecFrom1/2/3` (per-source range collect + zip + compute, point
read, sorted read), `LazyDeltaVec<DeltaSub>` and `LazyDeltaVec<DeltaChange>` (`bulk_try_fold` with its `read_from`
window, point read, sorted read), `LazyAggVec<Sparse>` (slot table + one sorted read, point read).

* `C15_from1_range`     — a range read of a one-source lazy vector returns exactly the formula on
                           `[from, min to len)`, in order, for every source and range;
* `C15_from_one`        — the point read is the formula (all arities) BY DEFINITION: the model has
                           `fromOne := fromFormula`, the theorem is `rfl`; it yields nothing beyond the
                           governing length (`C15_from_oob`);
* `C15_from_range_oob`  — a range that starts at or beyond the length yields nothing;
* `C15_delta_one`       — for a window that starts at or before its index the point read of the delta
                           vector is the formula `source[h] - source[start-1]` and does not panic;
* `C15_chg_one`, `C15_chg_sorted` — the same for `LazyDeltaVec<DeltaChange>` (`source[h] - source[start]`), point read and
                           sorted read: the formula at every requested in-range index, in request order, nothing for the
                           others, also when the window start IS the index itself;
* `C15_delta_oob`, `C15_chg_oob`, `C15_agg_oob`, `C15_agg_range_oob`, `C15_agg_one` — out-of-range requests yield nothing; the
                           sparse aggregation's point read is the formula, again by definition (`aggOne := aggFormula`, `rfl`);
* known findings, kept with their model witnesses:
  `C15_delta_emptyWindow_counterexample` (F8: `start = h+1` ⇒ `h - start + 1` underflows ⇒ panic in
  checked builds) and `C15_agg_pastEnd_counterexample` (F7: a first index beyond the source makes the
  range read index past the values it fetched ⇒ panic, while the point read answers `some none`).

The range paths of the delta and aggregation vectors (window arithmetic, slot table) are proved equal to the formula in
`Props/C15Range.lean` (`C15_delta_range`, `C15_chg_range`) and `Props/C15Agg.lean` (`C15_agg_range`).  The correspondence ties
them to the code: all six range APIs must agree with each other, with the formula (oracle) and with the model, on monotone
mappings incl. mappings shorter/longer than the source and sources that grow after construction.
-/
namespace AnyDB.C15
open AnyDB Lazy

theorem lenN_one (s : List Nat) : lenN [s] = s.length := by simp [lenN]

theorem collectRange_length (s : List Nat) (a b : Nat) : (collectRange s a b).length = min b s.length - a := by
  unfold collectRange
  rw [List.length_take, List.length_drop]
  omega

theorem collectRange_getElem? (s : List Nat) (a b k : Nat) :
    (collectRange s a b)[k]? = if k < min b s.length - a then s[a + k]? else none := by
  unfold collectRange
  rw [List.getElem?_take, List.getElem?_drop]

theorem collectRange_getD (s : List Nat) (a b k : Nat) (hk : k < min b s.length - a) :
    (collectRange s a b).getD k 0 = s.getD (a + k) 0 := by
  rw [List.getD_eq_getElem?_getD, collectRange_getElem?, if_pos hk, List.getD_eq_getElem?_getD]

theorem collectRange_get (s : List Nat) (a b j : Nat) (h1 : a ≤ j) (h2 : j < b) (h3 : b ≤ s.length) :
    (collectRange s a b)[j - a]? = some (s.getD j 0) := by
  rw [collectRange_getElem?, if_pos (by rw [Nat.min_eq_left h3]; omega), Nat.add_sub_cancel' h1,
    List.getElem?_eq_getElem (Nat.lt_of_lt_of_le h2 h3), List.getElem_eq_getD 0]

/-- every read loop of the lazy vectors is a fold over `R (List _)` whose step, from an `ok` state, appends nothing or
one element -/
theorem fold_ok {ι β : Type} (xs : List ι) (step : R (List β) → ι → R (List β)) (g : ι → Option β)
    (h : ∀ x ∈ xs, ∀ l, step (.ok l) x = .ok (l ++ (g x).toList)) (acc : List β) :
    xs.foldl step (.ok acc) = .ok (acc ++ xs.filterMap g) := by
  induction xs generalizing acc with
  | nil => simp
  | cons x t ih =>
    rw [List.foldl_cons, h x (List.mem_cons_self ..), ih (fun y hy => h y (List.mem_cons_of_mem _ hy)),
      List.filterMap_cons]
    cases g x <;> simp

theorem fold_range_ok {β : Type} (n : Nat) (step : R (List β) → Nat → R (List β)) (g : Nat → β)
    (h : ∀ k l, k < n → step (.ok l) k = .ok (l ++ [g k])) :
    (List.range n).foldl step (.ok []) = .ok ((List.range n).map g) := by
  rw [fold_ok _ step (some ∘ g) (fun k hk l => h k l (List.mem_range.1 hk)), List.nil_append, List.filterMap_eq_map]

theorem C15_from1_range (s : List Nat) (a b : Nat) :
    fromRange [s] a b = (List.range (min b s.length - a)).map (fun k => f1 (a + k) (s.getD (a + k) 0)) := by
  unfold fromRange
  simp only [lenN_one, List.map_cons, List.map_nil, collectRange_length, Nat.min_assoc, Nat.min_self]
  apply List.map_congr_left
  intro k hk
  rw [collectRange_getD s a _ k (by simpa [Nat.min_assoc] using hk)]

theorem C15_from_one (srcs : List (List Nat)) (i : Nat) : fromOne srcs i = fromFormula srcs i := rfl

theorem C15_from_oob (srcs : List (List Nat)) (i : Nat) (h : lenN srcs ≤ i) : fromOne srcs i = none := by
  unfold fromOne fromFormula; simp [h]

theorem C15_from_range_oob (s : List Nat) (a b : Nat) (h : s.length ≤ a) : fromRange [s] a b = [] := by
  rw [C15_from1_range]
  have : min b s.length - a = 0 := by omega
  simp [this]

theorem C15_delta_one (s starts : List Nat) (h : Nat) (hh : h < s.length) (hs : h < starts.length)
    (hw : starts.getD h 0 ≤ h) : deltaOne s starts h = .ok (deltaFormula s starts h) := by
  unfold deltaOne deltaFormula
  have h1 : ¬ h ≥ s.length := by omega
  have h2 : ¬ h ≥ starts.length := by omega
  simp only [h1, h2, if_false, or_self]
  generalize starts.getD h 0 = st at hw
  by_cases h0 : st = 0
  · subst h0
    simp only [if_true]
    have : ¬ 0 > h := by omega
    simp only [this, if_false]
  · simp only [h0, if_false]
    have hlt : st - 1 < s.length := by omega
    rw [List.getElem?_eq_getElem hlt, List.getElem_eq_getD 0]
    have : ¬ st > h := by omega
    simp only [this, if_false]

theorem C15_delta_oob (s starts : List Nat) (h : Nat) (hh : s.length ≤ h ∨ starts.length ≤ h) :
    deltaOne s starts h = .ok none := by
  unfold deltaOne
  by_cases h1 : h ≥ s.length
  · simp [h1]
  · have : h ≥ starts.length := by omega
    simp [h1, this]

theorem C15_chg_one (s starts : List Nat) (h : Nat) (hh : h < s.length) (hs : h < starts.length)
    (hw : starts.getD h 0 ≤ h) : chgOne s starts h = .ok (chgFormula s starts h) := by
  unfold chgOne chgFormula
  have h1 : ¬ h ≥ s.length := by omega
  have h2 : ¬ h ≥ starts.length := by omega
  simp only [h1, h2, if_false, or_self]
  generalize starts.getD h 0 = st at hw
  have hlt : st < s.length := by omega
  rw [List.getElem?_eq_getElem hlt]
  have : ¬ st > h := by omega
  simp only [this, if_false]

theorem C15_chg_oob (s starts : List Nat) (h : Nat) (hh : s.length ≤ h ∨ starts.length ≤ h) :
    chgOne s starts h = .ok none := by
  unfold chgOne
  by_cases h1 : h ≥ s.length
  · simp [h1]
  · have : h ≥ starts.length := by omega
    simp [h1, this]

theorem C15_chg_sorted (s starts idx : List Nat) (hw : ∀ h, h < min s.length starts.length → starts.getD h 0 ≤ h) :
    chgSorted s starts idx = .ok (idx.filterMap (chgFormula s starts)) := by
  unfold chgSorted
  refine (fold_ok idx _ (chgFormula s starts) (fun h _ l => ?_) []).trans (by rw [List.nil_append])
  unfold chgFormula
  simp only
  by_cases hb : h ≥ min s.length starts.length
  · rw [if_pos hb, if_pos (by omega)]
    simp
  · have hst := hw h (by omega)
    rw [if_neg hb, if_neg (by omega), List.getElem?_eq_getElem (by omega : starts.getD h 0 < s.length)]
    simp only
    rw [if_neg (by omega)]
    rfl

theorem C15_agg_one (s mapping : List Nat) (i : Nat) : aggOne s mapping i = aggFormula s mapping i := rfl

theorem C15_agg_oob (s mapping : List Nat) (i : Nat) (h : mapping.length ≤ i) : aggOne s mapping i = none := by
  unfold aggOne aggFormula; simp [h]

theorem C15_agg_range_oob (s mapping : List Nat) (a b : Nat) (h : mapping.length ≤ a) : aggRange s mapping a b = .ok [] := by
  unfold aggRange
  have : a ≥ min b mapping.length := by omega
  simp [this]

theorem C15_delta_emptyWindow_counterexample :
    deltaOne [1, 2, 3] [0, 1, 3] 2 = .panic ∧ deltaRange [1, 2, 3] [0, 1, 3] 0 3 = .panic ∧
    deltaFormula [1, 2, 3] [0, 1, 3] 2 = some 0 := by decide

theorem C15_agg_pastEnd_counterexample :
    aggRange [5, 6] [0, 1, 4] 0 3 = .panic ∧ aggOne [5, 6] [0, 1, 4] 1 = some none := by decide

/-- non-vacuity: a delta vector over a growing source with a sliding 2-element window -/
example : deltaRange [1, 3, 6, 10, 15] [0, 0, 1, 2, 3] 1 5 = .ok [3, 5, 7, 9] := by decide
example : aggRange [10, 11, 12, 13, 14] [0, 2, 2, 5] 0 4 = .ok [some 11, none, some 14, none] := by decide

end AnyDB.C15
