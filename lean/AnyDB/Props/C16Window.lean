import AnyDB.Lemmas.VecMap
import AnyDB.Props.C16
import AnyDB.Props.C16Hist
/-!
# C16 over whole histories: the retention window (compressed formats)

`C16_window_comp`: a compressed vector with retention `k ≥ 1` and an empty change directory; ANY number `n` of rounds of
pushes and truncations each followed by a `commit` under a strictly increasing stamp (whatever the compressor answers);
then `rollback` — the model's own, which looks the record up by the current stamp — again and again:

* every one of the first `min k n` rollbacks succeeds, and after `t ≤ min k n` of them the vector shows exactly what it
  showed at the `t`-th last commit (stamp and contents);
* the next rollback is refused (`io`: no record for the current stamp) and leaves the state untouched — never more than
  `k`, never more than the number of commits;
* on the way, the change directory holds exactly the last `min k n` records (`hist_dir`).

The records travel through their bytes (`serializeChanges`, `parseChange`).  What is assumed: the side conditions of the byte
format at every commit (`RoundsOK`: values fit the element size, lengths fit 64 bits, retention on).
Raw formats: the same chain of commits is covered by `C04_commits_then_rollbacks_raw` (faithful records) and the per-step
lemmas of `Props/C16.lean`; the directory arithmetic (`commit_dir`-style) is not repeated for them — correspondence.
-/
namespace AnyDB.C16w
open VecM VecM.V C03c C04c

/-- every entry's record leads from the snapshot above it to the snapshot from before its round (`before`); stamps fall
strictly -/
def Linked (sz : Nat) : SnapC → List Entry → Prop
  | _, [] => True
  | top, e :: t => top.stamp = e.stamp ∧ FaithfulC e.before top e.ch ∧ parseChange .comp sz e.bytes = .ok e.ch ∧
      e.before.stamp < e.stamp ∧ Linked sz e.before t

/-- the snapshot below all the entries -/
def bottomE : SnapC → List Entry → SnapC
  | top, [] => top
  | _, e :: t => bottomE e.before t

theorem linked_append (sz : Nat) (top : SnapC) (A B : List Entry) (hA : Linked sz top A) (hB : Linked sz (bottomE top A) B) :
    Linked sz top (A ++ B) := by
  induction A generalizing top with
  | nil => exact hB
  | cons e t ih => exact ⟨hA.1, hA.2.1, hA.2.2.1, hA.2.2.2.1, ih e.before hA.2.2.2.2 hB⟩

theorem bottomE_append (top : SnapC) (A B : List Entry) : bottomE top (A ++ B) = bottomE (bottomE top A) B := by
  induction A generalizing top with
  | nil => rfl
  | cons e t ih => exact ih e.before

theorem linked_take (sz : Nat) (top : SnapC) (H : List Entry) (m : Nat) (h : Linked sz top H) : Linked sz top (H.take m) := by
  induction H generalizing top m with
  | nil => simp [Linked]
  | cons e t ih =>
    cases m with
    | zero => simp [Linked]
    | succ j => exact ⟨h.1, h.2.1, h.2.2.1, h.2.2.2.1, ih e.before j h.2.2.2.2⟩

theorem bottom_le (sz : Nat) (top : SnapC) (H : List Entry) (h : Linked sz top H) : (bottomE top H).stamp ≤ top.stamp := by
  induction H generalizing top with
  | nil => exact Nat.le_refl _
  | cons a t ih =>
    rw [h.1]
    exact Nat.le_trans (ih a.before h.2.2.2.2) (Nat.le_of_lt h.2.2.2.1)

theorem bottom_lt (sz : Nat) (top : SnapC) (H : List Entry) (h : Linked sz top H) : ∀ e ∈ H, (bottomE top H).stamp < e.stamp := by
  induction H generalizing top with
  | nil => intro e he; cases he
  | cons a t ih =>
    intro e he
    rcases List.mem_cons.mp he with rfl | he
    · exact Nat.lt_of_le_of_lt (bottom_le sz e.before t h.2.2.2.2) h.2.2.2.1
    · exact ih a.before h.2.2.2.2 e he

theorem linked_le (sz : Nat) (top : SnapC) (H : List Entry) (h : Linked sz top H) : ∀ e ∈ H, e.stamp ≤ top.stamp := by
  induction H generalizing top with
  | nil => intro e he; cases he
  | cons a t ih =>
    intro e he
    rw [h.1]
    rcases List.mem_cons.mp he with rfl | he
    · exact Nat.le_refl _
    · exact Nat.le_trans (ih a.before h.2.2.2.2 e he) (Nat.le_of_lt h.2.2.2.1)

theorem linked_distinct (sz : Nat) (top : SnapC) (H : List Entry) (h : Linked sz top H) : (H.map Entry.pair).Pairwise (fun a b => a.1 ≠ b.1) := by
  induction H generalizing top with
  | nil => simp
  | cons a t ih =>
    simp only [List.map_cons, List.pairwise_cons]
    refine ⟨?_, ih a.before h.2.2.2.2⟩
    intro x hx
    obtain ⟨e, he, rfl⟩ := List.mem_map.mp hx
    -- every later entry has a stamp at most the stamp left behind by `a`, which is below `a`'s
    exact Nat.ne_of_gt (Nat.lt_of_le_of_lt (linked_le sz a.before t h.2.2.2.2 e he) h.2.2.2.1)

theorem hist_length (p : V) (rs : List Round) : (hist p rs).2.length = rs.length := by
  induction rs generalizing p with
  | nil => rfl
  | cons r t ih => simp only [hist, List.length_append, List.length_cons, List.length_nil]; rw [ih]

theorem hist_linked (p : V) (rs : List Round) (hb : BaseC p) (hok : RoundsOK p rs) (hin : Incr p.stamp rs) :
    ∃ top, ShowsC (hist p rs).1 top ∧ Linked p.sz top (hist p rs).2 ∧ bottomE top (hist p rs).2 = ⟨p.stamp, shown p⟩ ∧
      (hist p rs).1.sz = p.sz := by
  induction rs generalizing p with
  | nil =>
    exact ⟨⟨p.stamp, shown p⟩, shows_of_cinv p hb.inv, trivial, rfl, rfl⟩
  | cons r t ih =>
    obtain ⟨hkeep, hrec, hrest⟩ := hok
    obtain ⟨hlt, hin'⟩ := hin
    obtain ⟨hsince, hi, hsy, _, _⟩ := since_edits p r.1 hb
    obtain ⟨_, hshow, hbc, hsz, _, _, hparse, hfaith⟩ :=
      commit_facts p (r.1.foldl applyP p) r.2.1 r.2.2 hb.inv hsince hi hsy hkeep hrec
    have hst : ((r.1.foldl applyP p).commit r.2.1 r.2.2).1.stamp = r.2.1 := hshow.2.2.2.1
    obtain ⟨top, i1, i2, i3, i4⟩ := ih _ hbc hrest (by rw [hst]; exact hin')
    have hszc : ((r.1.foldl applyP p).commit r.2.1 r.2.2).1.sz = p.sz := by rw [hsz, hsince.sz]
    rw [hszc] at i2
    rw [hst, hshow.2.2.2.2] at i3
    simp only [hist]
    refine ⟨top, i1, ?_, ?_, by rw [i4, hszc]⟩
    · refine linked_append p.sz top _ _ i2 ?_
      rw [i3]
      exact ⟨rfl, hfaith, by rw [← hsince.sz]; exact hparse, hlt, trivial⟩
    · rw [bottomE_append]; rfl

/-- the model's `rollback`, `n` times; the answers are collected -/
def rollbackN (r : V) : Nat → V × List Out
  | 0 => (r, [])
  | n + 1 => let x := r.rollback; let q := rollbackN x.1 n; (q.1, x.2 :: q.2)

theorem rollbacks_ok (sz t : Nat) (r : V) (top : SnapC) (H : List Entry) (hs : ShowsC r top) (hsz : r.sz = sz) (hl : Linked sz top H)
    (hfind : ∀ e ∈ H.take t, r.changes.find? (·.1 == e.stamp) = some e.pair) (ht : t ≤ H.length) :
    (∀ o ∈ (rollbackN r t).2, o = .ok) ∧ ShowsC (rollbackN r t).1 (bottomE top (H.take t)) ∧
    (rollbackN r t).1.changes = r.changes ∧ (rollbackN r t).1.sz = sz := by
  induction t generalizing r top H with
  | zero => exact ⟨fun o ho => by simp [rollbackN] at ho, by simpa [rollbackN, bottomE] using hs, rfl, hsz⟩
  | succ n ih =>
    cases H with
    | nil => simp at ht
    | cons e H' =>
      have hf := hfind e (by simp)
      have hstamp : r.stamp = e.stamp := by rw [hs.2.2.2.1, hl.1]
      have hrb := (C04.C04_rollback_uses_current_stamp r e.stamp e.bytes (by rw [hstamp]; exact hf)).1
      obtain ⟨u1, u2⟩ := undo_shows_c r e.before top e.ch e.bytes hs hl.2.1 (by rw [hs.1, hsz]; exact hl.2.2.1)
      have hch := (undo_comp_fields r e.bytes hs.1).2.2.2
      have hsz' : (r.undo e.bytes).1.sz = sz := by rw [(undo_comp_fields r e.bytes hs.1).2.1]; exact hsz
      obtain ⟨i1, i2, i3, i4⟩ := ih (r.undo e.bytes).1 e.before H' u2 hsz' hl.2.2.2.2
        (by intro x hx; rw [hch]; exact hfind x (by simp only [List.take_succ_cons, List.mem_cons]; exact Or.inr hx))
        (by simp at ht; omega)
      simp only [rollbackN, hrb, List.take_succ_cons, bottomE]
      refine ⟨?_, i2, by rw [i3, hch], i4⟩
      intro o ho
      simp only [List.mem_cons] at ho
      rcases ho with rfl | ho
      · exact u1
      · exact i1 o ho

/-- **C16, compressed formats, for every history of commits**: exactly `min k n` rollbacks, never more.  `top` is what the
final state presents, `⟨(hist p rs).1.stamp, shown (hist p rs).1⟩` (the conjunct for `t = 0` says so); for `t ≥ 1`
`bottomE` does not look at it: the state after `t` rollbacks presents the `before` of the `t`-th newest entry -/
theorem C16_window_comp (p : V) (rs : List Round) (hb : BaseC p) (hok : RoundsOK p rs) (hin : Incr p.stamp rs)
    (hch : p.changes = []) (t : Nat) (ht : t ≤ min p.keep rs.length) :
    ∃ top,
      -- the directory holds the last min k n records
      (hist p rs).1.changes = (((hist p rs).2.take p.keep).map Entry.pair).reverse ∧
      -- t rollbacks succeed and show the t-th last commit
      (∀ o ∈ (rollbackN (hist p rs).1 t).2, o = .ok) ∧
      ShowsC (rollbackN (hist p rs).1 t).1 (bottomE top ((hist p rs).2.take t)) ∧
      -- after min k n of them the next one is refused and changes nothing
      (t = min p.keep rs.length → (rollbackN (hist p rs).1 t).1.rollback = ((rollbackN (hist p rs).1 t).1, .err .io)) := by
  obtain ⟨top, s1, s2, _, s4⟩ := hist_linked p rs hb hok hin
  obtain ⟨d1, _⟩ := hist_dir p rs p.stamp hb hok hin (by rw [hch]; intro x hx; cases hx) (by rw [hch]; exact Nat.zero_le _)
  have hlen := hist_length p rs
  have hD : (hist p rs).1.changes = (((hist p rs).2.take p.keep).map Entry.pair).reverse := by
    rw [d1, hch, List.nil_append, takeLast_reverse, List.map_take]
  have hdist := linked_distinct p.sz top _ (linked_take p.sz top _ p.keep s2)
  have hfindAll : ∀ e ∈ (hist p rs).2.take p.keep, (hist p rs).1.changes.find? (·.1 == e.stamp) = some e.pair := by
    intro e he
    rw [hD]
    exact find_of_distinct _ e.pair (List.pairwise_reverse.mpr (hdist.imp (fun h => Ne.symm h))) (List.mem_reverse.mpr (List.mem_map_of_mem he))
  obtain ⟨r1, r2, r3, _⟩ := rollbacks_ok p.sz t (hist p rs).1 top (hist p rs).2 s1 s4 s2
    (fun e he => hfindAll e (List.take_subset_take_left _ (Nat.le_trans ht (Nat.min_le_left _ _)) he))
    (by rw [hlen]; exact Nat.le_trans ht (Nat.min_le_right _ _))
  refine ⟨top, hD, r1, r2, ?_⟩
  intro hte
  apply C16.C16_missing_refused
  rw [r3, hD, r2.2.2.2.1]
  have htake : (hist p rs).2.take t = (hist p rs).2.take p.keep := by
    rw [hte]
    rcases Nat.le_total p.keep rs.length with hkn | hkn
    · rw [Nat.min_eq_left hkn]
    · rw [Nat.min_eq_right hkn, List.take_of_length_le (Nat.le_of_eq hlen), List.take_of_length_le (by rw [hlen]; exact hkn)]
  rw [htake]
  have hlt := bottom_lt p.sz top _ (linked_take p.sz top _ p.keep s2)
  rw [List.find?_eq_none]
  intro x hx
  obtain ⟨e, he, rfl⟩ := List.mem_map.mp (List.mem_reverse.mp hx)
  simp only [Entry.pair, beq_iff_eq]
  exact Nat.ne_of_gt (hlt e he)

/-- non-vacuity: retention 2, three commits — two rollbacks succeed, the third is refused; the directory holds two records -/
def exRounds3 : List Round := [([.push 1, .push 2], 1, []), ([.truncate 1, .push 9], 2, []), ([.push 5], 3, [])]
example : (rollbackN (hist (V.init .comp 8 2) exRounds3).1 3).2 = [.ok, .ok, .err .io] := by decide +kernel
example : ((hist (V.init .comp 8 2) exRounds3).1.changes.map (·.1)) = [2, 3] := by decide
example : shown (rollbackN (hist (V.init .comp 8 2) exRounds3).1 2).1 = [1, 2] := by decide +kernel

end AnyDB.C16w
