import AnyDB.Lemmas.LayoutReopen
import AnyDB.Props.C01Run

/-!
# C01 — reopen: every region that ever held data or was renamed survives with identical name, length and bytes

`FInv` (`Lemmas/RegionFile.lean`): the `regions` metadata file agrees with the slot table — a freed slot has no image, a live
slot's image is its metadata unless the slot was created and never written (`needsWrite`: no data, no rename, no dirty bounds);
preserved by every operation of the model (the file is written exactly by `write_if_dirty` and by removal; `flush` marks clean
only slots that have been written).

`C01_reopen_partial`: after EVERY history (no earlier `reopen`, no panic, no `RegionSizeOverflow`) that ends in a state in
which every live region has been written at least once, dropping all handles and opening the directory again — with any
`min_len` — succeeds (`Layout::from` cannot panic: `reopen_ok`) and shows in every slot exactly what the reference byte vectors hold:
same name, same length, same bytes; a removed region stays absent.  (A region that was created and never given data or a
new name has no image in the metadata file; the property does not promise it survives.)

`C02_reopen_partial`: the layout rebuilt by that reopen has no byte in two extents, positive extents, a start map that agrees
with the slots, and every byte below its end in exactly one region or free extent (the holes ARE the gaps).
Histories that CONTINUE after a reopen: `Props/C01All.lean` (the reopened state satisfies every invariant again, `reopen_inv`; the
reference is compared up to trailing free slots, `rel_reopen`).
-/
namespace AnyDB.C01r
open Conc C02r

theorem C01_reopen_partial (ops : List Op) (n : Nat) (hr : NoReopen ops) (hf : FineRun Db.init ops)
    (hw : ∀ idx sl, (run Db.init ops).slot? idx = some sl → sl.st ≠ .needsWrite) :
    ((run Db.init ops).reopen n).2 = .ok ∧
    ∀ idx, viewAt ((run Db.init ops).reopen n).1 idx = ((refRun ops)[idx]?.join).map liftE := by
  obtain ⟨_, hrel, hinv, _⟩ := fine_run Db.init [] ops rel_init.1 rel_init.2 inf_init hr hf
  have hs := sinv_run ops hr (noPanic_of_fine Db.init ops hf)
  have hok := (reopen_ok _ n hs.finv hinv hs.al hw).1
  refine ⟨hok, fun idx => ?_⟩
  rw [reopen_view _ n hs.finv hinv hs.al hw hok idx]
  exact hrel.2 idx

/-- C02 across a reopen at the end of any such history: the rebuilt layout is disjoint, positive, consistent with the slots, and
fully accounted -/
theorem C02_reopen_partial (ops : List Op) (n : Nat) (hr : NoReopen ops) (hf : FineRun Db.init ops)
    (hw : ∀ idx sl, (run Db.init ops).slot? idx = some sl → sl.st ≠ .needsWrite) :
    LInv ((run Db.init ops).reopen n).1 ∧
    (∀ x, x < ((run Db.init ops).reopen n).1.layoutLen → cnt (claimedDb ((run Db.init ops).reopen n).1) x = 1) := by
  obtain ⟨_, _, hinv⟩ := C01_history_partial ops hr hf
  have hs := sinv_run ops hr (noPanic_of_fine Db.init ops hf)
  obtain ⟨_, hl, hacc⟩ := reopen_ok _ n hs.finv hinv hs.al hw
  exact ⟨hl, accounted _ hl hacc⟩

/-- the metadata file agrees with the slots after every such history -/
theorem C01_file_agrees (ops : List Op) (hr : NoReopen ops) (hf : FineRun Db.init ops) : FInv (run Db.init ops) :=
  (sinv_run ops hr (noPanic_of_fine Db.init ops hf)).finv

end AnyDB.C01r
