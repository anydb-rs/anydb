import AnyDB.Lemmas.RawVec
import AnyDB.Lemmas.VecCursor

/-!
# C04 / C17 — the change record of a raw vector round-trips through its bytes

`C04_record_roundtrip`: for every raw vector state whose numbers fit their fields (`RecBounds`: stamps, lengths and
slot numbers below 2^64, element values below 256^sz, the whole record below 2^64 bytes), what `parse_change_data` +
`parse_raw_change_data` read from the bytes `serialize_changes` wrote is exactly `recordOf s`: previous stamp,
previous stored length, truncation point, truncated values, previous buffer, modification table, deleted slots.
Proved field by field with the cursor lemmas of Lemmas/VecCursor.lean.
-/
namespace AnyDB.C04b
open VecM VecM.V

def recTv (s : V) : List Nat := if recTrunc s > 0 then (s.collectStoredRaw s.storedLen s.prevStoredLen).1 else []
def recKeys (s : V) : List Nat := (s.updated.map (·.1) ++ s.prevUpdated.map (·.1)).foldl setInsert []
def recVals (s : V) : List Nat :=
  ((recKeys s).foldl (fun (acc : List Nat × Bool) i =>
    match mapGet s.prevUpdated i with
    | some v => (acc.1 ++ [v], acc.2)
    | none => let r := s.diskRead i; (acc.1 ++ [r.1], acc.2 || r.2))
    ([], (if recTrunc s > 0 then s.collectStoredRaw s.storedLen s.prevStoredLen else ([], false)).2)).1

theorem serialize_shape (s : V) (hk : s.kind = .raw) :
    s.serializeChanges.1 =
      u64b s.stamp ++ (u64b s.prevStoredLen ++ (u64b s.storedLen ++ (u64b (recTrunc s) ++ (encVals s.sz (recTv s) ++
      (u64b s.prevPushed.length ++ (encVals s.sz s.prevPushed ++ (u64b s.pushed.length ++ (encVals s.sz s.pushed ++
      (u64b (recKeys s).length ++ (encVals 8 (recKeys s) ++ (encVals s.sz (recVals s) ++
      (u64b s.prevHoles.length ++ encVals 8 s.prevHoles)))))))))))) := by
  unfold serializeChanges recTv recVals recKeys recTrunc
  simp only [hk, List.append_assoc]
  by_cases h : s.prevStoredLen - s.storedLen > 0
  · simp only [h, if_true]; rfl
  · simp only [h, if_false]; rfl

theorem recTv_length (s : V) : (recTv s).length = recTrunc s := by
  unfold recTv
  by_cases h : recTrunc s > 0
  · rw [if_pos h, collectStoredRaw_length]
    rfl
  · rw [if_neg h]
    exact (Nat.eq_zero_of_not_pos h).symm

theorem recVals_eq (s : V) : recVals s = (recKeys s).map (fun i => (mapGet s.prevUpdated i).getD (s.diskRead i).1) := by
  unfold recVals
  rw [foldl_collect _ _ (fun i => (mapGet s.prevUpdated i).getD (s.diskRead i).1)
    (fun i => (mapGet s.prevUpdated i).isNone && (s.diskRead i).2)]
  · rfl
  · exact fun acc x => collect_step ..

theorem recVals_length (s : V) : (recVals s).length = (recKeys s).length := by
  rw [recVals_eq, List.length_map]

/-- everything in the record fits its field.  The one bound 2^64 appears in the form its user takes: `< 2 ^ 64` for a
number read by `readU64_at`, `< 256 ^ 8` for the entries of a table of 8-byte values (`readValues_at`, through `le_rt`),
`< U64` for the length the cursor's `check` compares with -/
structure RecBounds (s : V) : Prop where
  stamp : s.stamp < 2 ^ 64
  psl : s.prevStoredLen < 2 ^ 64
  sl : s.storedLen < 2 ^ 64
  tvv : ∀ v ∈ recTv s, v < 256 ^ s.sz
  ppv : ∀ v ∈ s.prevPushed, v < 256 ^ s.sz
  keysv : ∀ k ∈ recKeys s, k < 256 ^ 8
  valsv : ∀ v ∈ recVals s, v < 256 ^ s.sz
  phv : ∀ h ∈ s.prevHoles, h < 256 ^ 8
  ppl : s.prevPushed.length < 2 ^ 64
  pl : s.pushed.length < 2 ^ 64
  kl : (recKeys s).length < 2 ^ 64
  phl : s.prevHoles.length < 2 ^ 64
  total : s.serializeChanges.1.length < U64

/-- the record `serializeChanges` writes for a raw vector, as `parseChange` reads it back -/
def recordOf (s : V) : Change :=
  { prevStamp := s.stamp, prevStoredLen := s.prevStoredLen, truncatedStart := s.prevStoredLen - recTrunc s,
    truncatedValues := recTv s, prevPushed := s.prevPushed, mods := (recKeys s).zip (recVals s),
    prevHoles := s.prevHoles.foldl setInsert [] }

theorem C04_record_roundtrip (s : V) (hk : s.kind = .raw) (hb : RecBounds s) :
    parseChange .raw s.sz s.serializeChanges.1 = .ok (recordOf s) := by
  have h0 : CurAt { bytes := s.serializeChanges.1, pos := 0 } _ := ⟨Nat.zero_le _, hb.total, serialize_shape s hk⟩
  have htr : recTrunc s < 2 ^ 64 := Nat.lt_of_le_of_lt (Nat.sub_le ..) hb.psl
  obtain ⟨c1, r1, h1⟩ := readU64_at _ _ _ h0 hb.stamp
  obtain ⟨c2, r2, h2⟩ := readU64_at _ _ _ h1 hb.psl
  obtain ⟨c3, r3, h3⟩ := readU64_at _ _ _ h2 hb.sl
  obtain ⟨c4, r4, h4⟩ := readU64_at _ _ _ h3 htr
  obtain ⟨c5, r5, h5⟩ := readValues_at _ _ _ _ h4 hb.tvv
  obtain ⟨c6, r6, h6⟩ := readU64_at _ _ _ h5 hb.ppl
  obtain ⟨c7, r7, h7⟩ := readValues_at _ _ _ _ h6 hb.ppv
  -- the buffer being written is skipped, not read
  obtain ⟨c8, r8, h8⟩ := readU64_at _ _ _ h7 hb.pl
  have g3 : ¬(s.sz * s.pushed.length ≥ U64) := h8.vals_lt
  obtain ⟨c9, r9, h9⟩ := skip_at _ _ _ h8
  obtain ⟨c10, r10, h10⟩ := readU64_at _ _ _ h9 hb.kl
  obtain ⟨c11, r11, h11⟩ := readValues_at _ _ _ _ h10 hb.keysv
  obtain ⟨c12, r12, h12⟩ := readValues_at _ _ _ _ h11 hb.valsv
  obtain ⟨c13, r13, h13⟩ := readU64_at _ _ _ h12 hb.phl
  obtain ⟨c14, r14, _⟩ := readValues_at c13 8 s.prevHoles [] (by rw [List.append_nil]; exact h13) hb.phv
  rw [recTv_length] at r5
  rw [encVals_length] at r9
  rw [recVals_length] at r12
  unfold parseChange
  simp only [r1, r2, r3, r4]
  have g1 : ¬(recTrunc s ≠ s.prevStoredLen - s.storedLen) := fun h => h rfl
  have g2 : ¬(recTrunc s > s.prevStoredLen) := Nat.not_lt.mpr (Nat.sub_le ..)
  simp only [g1, g2, if_false, r5, r6, r7, r8, g3, r9, r10, r11, r12, r13, r14]
  rfl

end AnyDB.C04b
