import AnyDB.Props.C03Write

/-!
# C04, raw formats — the undo, and one commit / rollback pair end to end

The raw branch of `deserialize_then_undo_changes` stage by stage (`undoRaw`, which `undo_raw_eq` shows it to be: cut the
overlay back, restore stamp / stored length / buffer, insert the truncated tail into the overlay, replay the recorded
modifications, restore the deleted slots) and in closed form (`undoRaw_eq`, for a record whose modifications address stored
slots of the previous state); `C04_raw_undo_items`: every index then reads `restored s ch i`; `slotVal_undo`: what a stored
slot then holds.
The step (namespace `C04m`): a committed state is described by a snapshot (`Snap`); `undo_slots`: undoing a record that is
faithful for two snapshots (`FaithfulS`) on any raw state whose stored slots are those of the newer one gives a state that
shows (`Shows`) the older one; Props/C04Multi.lean iterates that step.
One commit / rollback pair in terms of states: `p` cleanly committed (`CleanCommitted`); `s` reached from it by pushes,
truncations, updates, deletions (`After`); the next commit writes (`Written`) and files a record that describes the way back
(`Faithful`); these give the hypotheses of the step (`shows_clean`, `faithfulS_of_faithful`), and `C04_commit_rollback_raw`
is one application of it.
That the BYTES produced by `serializeChanges` parse to a `Faithful` record: Props/C04Record.lean, Props/C04Commit.lean; the
last `example` runs exactly that on a concrete history with the real bytes, and the vec engine's rollback streams do it on
the real crates for all formats.  Compressed formats: `C04_comp_undo_logical` (Props/C04.lean), Props/C04Comp.lean.
-/
namespace AnyDB.C04r
open VecM VecM.V C03w

def insertTruncated (s : V) (ts : Nat) (tv : List Nat) : V :=
  (List.range tv.length).foldl (fun (s : V) i => { s with updated := mapInsert s.updated (ts + i) (tv.getD i 0) }) s

def applyMods (s : V) (mods : List (Nat × Nat)) : V × Out :=
  mods.foldl (fun (acc : V × Out) (kv : Nat × Nat) =>
    match acc.2 with
    | .ok => acc.1.updateAt kv.1 kv.2
    | _ => acc) (s, .ok)

def finishUndo (s : V) (ch : Change) : V :=
  let s := if !ch.prevHoles.isEmpty || !s.holes.isEmpty || !s.prevHoles.isEmpty
           then { s with holes := ch.prevHoles, prevHoles := ch.prevHoles } else s
  { s with prevUpdated := s.updated }

def undoRaw (s : V) (ch : Change) : V × Out :=
  let s := if ch.prevStoredLen < s.storedLen then s.truncateDirtyAt ch.prevStoredLen else s
  let s := s.applyRollback ch.prevStamp ch.prevStoredLen ch.prevPushed
  let s := insertTruncated s ch.truncatedStart ch.truncatedValues
  let r := applyMods s ch.mods
  match r.2 with
  | .ok => (finishUndo r.1 ch, .ok)
  | o => (r.1, o)

theorem undo_raw_eq (s : V) (bytes : List UInt8) (ch : Change) (hk : s.kind = .raw)
    (hp : parseChange s.kind s.sz bytes = .ok ch) : s.undo bytes = undoRaw s ch := by
  unfold V.undo
  rw [hp]
  simp only [hk]
  rfl

/-- the truncated tail `tv` written back at `ts, ts+1, …` -/
def tailPairs (ts : Nat) (tv : List Nat) : List (Nat × Nat) := (List.range' ts tv.length).map (fun k => (k, tv.getD (k - ts) 0))

theorem insertTruncated_eq (s : V) (ts : Nat) (tv : List Nat) :
    insertTruncated s ts tv = { s with updated := putAll s.updated (tailPairs ts tv) } := by
  unfold insertTruncated putAll tailPairs
  rw [List.range'_eq_map_range, List.map_map, List.foldl_map]
  simp only [Function.comp, Nat.add_sub_cancel_left]
  generalize List.range tv.length = l
  induction l generalizing s with
  | nil => rfl
  | cons a t ih => rw [List.foldl_cons, List.foldl_cons, ih]

theorem mapGet_putAll_tail (u : List (Nat × Nat)) (ts : Nat) (tv : List Nat) (i : Nat) :
    mapGet (putAll u (tailPairs ts tv)) i = if ts ≤ i ∧ i < ts + tv.length then some (tv.getD (i - ts) 0) else mapGet u i := by
  unfold tailPairs
  rw [mapGet_putAll _ _ (keysDistinct_map_pairs _ _ (List.pairwise_lt_range' ..)), mapGet_map_pairs]
  simp only [List.mem_range'_1]
  by_cases h : ts ≤ i ∧ i < ts + tv.length
  · rw [if_pos h, if_pos h]
  · rw [if_neg h, if_neg h]

theorem insertTruncated_fields (s : V) (ts : Nat) (tv : List Nat) :
    (insertTruncated s ts tv).holes = s.holes ∧ (insertTruncated s ts tv).storedLen = s.storedLen ∧
    (insertTruncated s ts tv).pushed = s.pushed ∧ (insertTruncated s ts tv).disk = s.disk ∧
    (insertTruncated s ts tv).stamp = s.stamp ∧ (insertTruncated s ts tv).prevHoles = s.prevHoles := by
  rw [insertTruncated_eq]
  exact ⟨rfl, rfl, rfl, rfl, rfl, rfl⟩

theorem insertTruncated_get (s : V) (ts : Nat) (tv : List Nat) (i : Nat) :
    mapGet (insertTruncated s ts tv).updated i
      = if ts ≤ i ∧ i < ts + tv.length then some (tv.getD (i - ts) 0) else mapGet s.updated i := by
  rw [insertTruncated_eq]
  exact mapGet_putAll_tail s.updated ts tv i

theorem applyMods_eq (s : V) (mods : List (Nat × Nat)) (hm : ∀ kv ∈ mods, kv.1 < s.storedLen) :
    applyMods s mods = ({ s with holes := mods.foldl (fun h kv => h.filter (· != kv.1)) s.holes, updated := putAll s.updated mods }, .ok) := by
  unfold applyMods putAll
  induction mods generalizing s with
  | nil => rfl
  | cons kv t ih =>
    simp only [List.foldl_cons, updateAt_stored s kv.1 kv.2 (hm kv (List.mem_cons_self ..))]
    exact ih _ (fun x hx => hm x (List.mem_cons_of_mem _ hx))

theorem applyMods_spec (s : V) (mods : List (Nat × Nat)) (hm : ∀ kv ∈ mods, kv.1 < s.storedLen) (hd : KeysDistinct mods) :
    (applyMods s mods).2 = .ok ∧ (applyMods s mods).1.storedLen = s.storedLen ∧ (applyMods s mods).1.pushed = s.pushed ∧
    (applyMods s mods).1.disk = s.disk ∧ (applyMods s mods).1.stamp = s.stamp ∧ (applyMods s mods).1.prevHoles = s.prevHoles ∧
    ∀ i, mapGet (applyMods s mods).1.updated i = match mapGet mods i with | some v => some v | none => mapGet s.updated i := by
  rw [applyMods_eq s mods hm]
  exact ⟨rfl, rfl, rfl, rfl, rfl, rfl, mapGet_putAll _ _ hd⟩

theorem finishUndo_frame (r : V) (ch : Change) :
    ∃ ph, finishUndo r ch = { r with holes := ch.prevHoles, prevHoles := ph, prevUpdated := r.updated } := by
  unfold finishUndo
  by_cases hc : (!ch.prevHoles.isEmpty || !r.holes.isEmpty || !r.prevHoles.isEmpty) = true
  · rw [if_pos hc]
    exact ⟨_, rfl⟩
  · -- none recorded and none marked: nothing is restored, and the deleted slots are the recorded ones all the same
    rw [if_neg hc]
    have h1 : ch.prevHoles = [] := by
      cases hp : ch.prevHoles with
      | nil => rfl
      | cons a t => exact absurd (by rw [hp]; rfl) hc
    rw [h1] at hc
    have h2 : r.holes = [] := by
      cases hp : r.holes with
      | nil => rfl
      | cons a t => exact absurd (by rw [hp]; rfl) hc
    -- `← h2` writes the `[]` that `h1` left in `holes` as `r.holes`: the two records are then the same field by field
    exact ⟨r.prevHoles, by rw [h1, ← h2]⟩

/-- the overlay the restore starts from: cut back to the previous stored length when the rolled-back commit appended -/
def baseUpdated (s : V) (ch : Change) : List (Nat × Nat) :=
  if ch.prevStoredLen < s.storedLen then s.updated.filter (fun kv => decide (kv.1 < ch.prevStoredLen)) else s.updated

theorem undoBase_frame (s : V) (ch : Change) :
    ∃ h, (if ch.prevStoredLen < s.storedLen then s.truncateDirtyAt ch.prevStoredLen else s) = { s with holes := h, updated := baseUpdated s ch } := by
  unfold baseUpdated
  by_cases hc : ch.prevStoredLen < s.storedLen
  · rw [if_pos hc, if_pos hc]
    exact ⟨_, rfl⟩
  · rw [if_neg hc, if_neg hc]
    exact ⟨_, rfl⟩

/-- the overlay after the raw undo: the truncated tail, then the recorded modifications, on top of `baseUpdated` -/
def undoUpdated (s : V) (ch : Change) : List (Nat × Nat) := putAll (putAll (baseUpdated s ch) (tailPairs ch.truncatedStart ch.truncatedValues)) ch.mods

theorem undoRaw_eq (s : V) (ch : Change) (hm : ∀ kv ∈ ch.mods, kv.1 < ch.prevStoredLen) :
    ∃ ph, undoRaw s ch = ({ s with stamp := ch.prevStamp, hdrModified := (if s.stamp = ch.prevStamp then s.hdrModified else true), storedLen := ch.prevStoredLen, prevStoredLen := ch.prevStoredLen, pushed := ch.prevPushed, prevPushed := ch.prevPushed, holes := ch.prevHoles, prevHoles := ph, updated := undoUpdated s ch, prevUpdated := undoUpdated s ch }, .ok) := by
  unfold undoRaw undoUpdated
  simp only []
  obtain ⟨h0, e0⟩ := undoBase_frame s ch
  rw [e0, applyRollback_eq, insertTruncated_eq, applyMods_eq _ _ hm]
  -- reduces the `match` on `.ok`; left unreduced, the last rewrite is some seventy times dearer to check
  simp only []
  obtain ⟨ph, h⟩ := finishUndo_frame _ ch
  exact ⟨ph, by rw [h]⟩

theorem mapGet_undoUpdated (s : V) (ch : Change) (hd : KeysDistinct ch.mods) (i : Nat) :
    mapGet (undoUpdated s ch) i =
      match mapGet ch.mods i with
      | some v => some v
      | none => if ch.truncatedStart ≤ i ∧ i < ch.truncatedStart + ch.truncatedValues.length
                then some (ch.truncatedValues.getD (i - ch.truncatedStart) 0) else mapGet (baseUpdated s ch) i := by
  unfold undoUpdated
  rw [mapGet_putAll _ _ hd]
  cases mapGet ch.mods i with
  | some v => rfl
  | none => exact mapGet_putAll_tail _ _ _ i

/-- what index `i` reads after undoing record `ch` on state `s`: the record's own values where it has them —
modified slots first, then the truncated tail — and the current value of the slot everywhere else -/
def restored (s : V) (ch : Change) (i : Nat) : Option Nat :=
  if i ∈ ch.prevHoles then none
  else if i ≥ ch.prevStoredLen then ch.prevPushed[i - ch.prevStoredLen]?
  else match (match mapGet ch.mods i with
      | some v => some v
      | none => if ch.truncatedStart ≤ i ∧ i < ch.truncatedStart + ch.truncatedValues.length
                then some (ch.truncatedValues.getD (i - ch.truncatedStart) 0) else mapGet (baseUpdated s ch) i) with
    | some v => some v
    | none => match s.disk[i]? with | some v => some v | none => some garbage

/-- C04, the raw undo: for EVERY state and EVERY well-formed record (its modifications address stored slots of the
previous state, each once) the undo succeeds, restores the recorded stamp, stored length, buffer and deleted
slots, leaves the region untouched, and every index then reads `restored s ch i` -/
theorem C04_raw_undo_items (s : V) (bytes : List UInt8) (ch : Change) (hk : s.kind = .raw)
    (hp : parseChange s.kind s.sz bytes = .ok ch)
    (hm : ∀ kv ∈ ch.mods, kv.1 < ch.prevStoredLen) (hd : KeysDistinct ch.mods) :
    (s.undo bytes).2 = .ok ∧ (s.undo bytes).1.stamp = ch.prevStamp ∧ (s.undo bytes).1.storedLen = ch.prevStoredLen ∧
    (s.undo bytes).1.pushed = ch.prevPushed ∧ (s.undo bytes).1.holes = ch.prevHoles ∧ (s.undo bytes).1.disk = s.disk ∧
    ∀ i, ((s.undo bytes).1.getAny i).1 = restored s ch i := by
  obtain ⟨_, e⟩ := undoRaw_eq s ch hm
  rw [undo_raw_eq s bytes ch hk hp, e]
  refine ⟨rfl, rfl, rfl, rfl, rfl, rfl, fun i => ?_⟩
  rw [getAny_fst]
  unfold restored C04m.slotVal
  rw [mapGet_undoUpdated s ch hd i]
  by_cases h1 : i ∈ ch.prevHoles
  · rw [if_pos h1, if_pos h1]
  · rw [if_neg h1, if_neg h1]
    by_cases h2 : ch.prevStoredLen ≤ i
    · rw [if_pos h2, if_pos h2]
    · rw [if_neg h2, if_neg h2]
      cases mapGet ch.mods i with
      | some v => rfl
      | none =>
        by_cases h3 : ch.truncatedStart ≤ i ∧ i < ch.truncatedStart + ch.truncatedValues.length
        · rw [if_pos h3]
        · rw [if_neg h3]
          cases mapGet (baseUpdated s ch) i with
          | some v => rfl
          | none =>
            rw [List.getD_eq_getElem?_getD]
            cases s.disk[i]? <;> rfl

end AnyDB.C04r

namespace AnyDB.C04m
open VecM VecM.V C03w C04r

theorem slotVal_undo (r : V) (ch : Change) (hm : ∀ kv ∈ ch.mods, kv.1 < ch.prevStoredLen) (hd : KeysDistinct ch.mods)
    (i : Nat) (hi : i < ch.prevStoredLen) :
    slotVal (undoRaw r ch).1 i =
      match mapGet ch.mods i with
      | some v => v
      | none => if ch.truncatedStart ≤ i ∧ i < ch.truncatedStart + ch.truncatedValues.length
                then ch.truncatedValues.getD (i - ch.truncatedStart) 0 else slotVal r i := by
  obtain ⟨_, e⟩ := undoRaw_eq r ch hm
  rw [e]
  unfold slotVal
  rw [mapGet_undoUpdated r ch hd i]
  cases mapGet ch.mods i with
  | some v => rfl
  | none =>
    by_cases h : ch.truncatedStart ≤ i ∧ i < ch.truncatedStart + ch.truncatedValues.length
    · rw [if_pos h, if_pos h]
    · rw [if_neg h, if_neg h]
      -- below the restored stored length the cut of the overlay is not seen
      have : mapGet (baseUpdated r ch) i = mapGet r.updated i := by
        unfold baseUpdated
        by_cases hc : ch.prevStoredLen < r.storedLen
        · rw [if_pos hc, mapGet_filter_lt, if_pos hi]
        · rw [if_neg hc]
      rw [this]

structure Snap where
  stamp : Nat
  storedLen : Nat
  holes : List Nat
  vals : List Nat

def Shows (r : V) (c : Snap) : Prop :=
  r.kind = .raw ∧ r.pushed = [] ∧ r.storedLen = c.storedLen ∧ r.holes = c.holes ∧ r.stamp = c.stamp ∧
    ∀ i, i < c.storedLen → slotVal r i = c.vals.getD i 0

/-- the record written when committing `c` on top of `c0`: previous stamp, length, deleted slots; the truncated tail of
`c0` from `ts` on; the previous values of every slot below `ts` whose value differs between `c0` and `c` (and maybe more) -/
structure FaithfulS (c0 c : Snap) (ch : Change) : Prop where
  stamp : ch.prevStamp = c0.stamp
  psl : ch.prevStoredLen = c0.storedLen
  pp : ch.prevPushed = []
  ph : ch.prevHoles = c0.holes
  tsle : ch.truncatedStart ≤ c0.storedLen ∧ ch.truncatedStart ≤ c.storedLen
  tvlen : ch.truncatedValues.length = c0.storedLen - ch.truncatedStart
  tv : ∀ j, j < ch.truncatedValues.length → ch.truncatedValues.getD j 0 = c0.vals.getD (ch.truncatedStart + j) 0
  modsDistinct : KeysDistinct ch.mods
  modsVals : ∀ kv ∈ ch.mods, kv.1 < c0.storedLen ∧ kv.2 = c0.vals.getD kv.1 0
  cover : ∀ i, i < ch.truncatedStart → mapGet ch.mods i = none → c.vals.getD i 0 = c0.vals.getD i 0

theorem undo_slots (r : V) (c0 c : Snap) (ch : Change) (bytes : List UInt8) (hk : r.kind = .raw)
    (hs : ∀ i, i < c.storedLen → slotVal r i = c.vals.getD i 0) (hf : FaithfulS c0 c ch)
    (hparse : parseChange r.kind r.sz bytes = .ok ch) :
    (r.undo bytes).2 = .ok ∧ Shows (r.undo bytes).1 c0 ∧ (r.undo bytes).1.sz = r.sz := by
  have hm : ∀ kv ∈ ch.mods, kv.1 < ch.prevStoredLen := fun kv hkv => by rw [hf.psl]; exact (hf.modsVals kv hkv).1
  rw [undo_raw_eq r bytes ch hk hparse]
  have hslot := slotVal_undo r ch hm hf.modsDistinct
  obtain ⟨_, e⟩ := undoRaw_eq r ch hm
  rw [e] at hslot ⊢
  refine ⟨rfl, ⟨hk, hf.pp, hf.psl, hf.ph, hf.stamp, fun i hi => ?_⟩, rfl⟩
  rw [hslot i (by rw [hf.psl]; exact hi)]
  cases hmod : mapGet ch.mods i with
  | some v => exact (hf.modsVals (i, v) (mem_of_mapGet _ _ _ hmod)).2
  | none =>
    simp only []
    by_cases h3 : ch.truncatedStart ≤ i ∧ i < ch.truncatedStart + ch.truncatedValues.length
    · rw [if_pos h3, hf.tv (i - ch.truncatedStart) (by omega)]
      congr 1
      omega
    · rw [if_neg h3]
      have hlt : i < ch.truncatedStart := by have := hf.tvlen; omega
      rw [hs i (Nat.lt_of_lt_of_le hlt hf.tsle.2)]
      exact hf.cover i hlt hmod

theorem shows_getAny (r : V) (c : Snap) (hs : Shows r c) (i : Nat) :
    (r.getAny i).1 = if i ∈ c.holes then none else if i ≥ c.storedLen then none else some (c.vals.getD i 0) := by
  obtain ⟨_, s2, s3, s4, _, s6⟩ := hs
  rw [getAny_fst, s4, s3, s2]
  by_cases h1 : i ∈ c.holes
  · rw [if_pos h1, if_pos h1]
  · rw [if_neg h1, if_neg h1]
    by_cases h2 : i ≥ c.storedLen
    · rw [if_pos h2, if_pos h2]
      exact List.getElem?_nil
    · rw [if_neg h2, if_neg h2, s6 i (Nat.lt_of_not_le h2)]

end AnyDB.C04m

namespace AnyDB.C04r
open VecM VecM.V C03w C04m

theorem writeRaw_spec (s : V) (hu : UpdOK s) (hle : s.storedLen ≤ s.disk.length) :
    s.writeRaw.1.updated = [] ∧ s.writeRaw.1.pushed = [] ∧ s.writeRaw.1.storedLen = s.storedLen + s.pushed.length ∧
    s.writeRaw.1.holes = s.holes ∧
    ∀ j, s.writeRaw.1.disk[j]? = match mapGet s.updated j with | some v => some v | none => (s.disk.take s.storedLen ++ s.pushed)[j]? := by
  rw [writeRaw_fst s hle hu.2]
  exact ⟨rfl, rfl, rfl, rfl, written_get s hu.1 hu.2 hle⟩

/-- a cleanly committed raw vector: nothing buffered, nothing overlaid, the stored length is what the region holds -/
structure CleanCommitted (p : V) : Prop where
  raw : p.kind = .raw
  pushed : p.pushed = []
  updated : p.updated = []
  stored : p.storedLen = p.disk.length

/-- what any mix of pushes, truncations, updates and deletions after the commit of `p` leaves in place (`after_*`): the
region untouched, the stored length not above the committed one, the overlay a map -/
structure After (p s : V) : Prop where
  disk : s.disk = p.disk
  le : s.storedLen ≤ p.storedLen
  upd : UpdInv s

/-- the state right after the write of the next commit, as far as the undo looks at it (`writeRaw_spec`) -/
structure Written (s w : V) : Prop where
  raw : w.kind = .raw
  updated : w.updated = []
  disk : ∀ j, w.disk[j]? = match mapGet s.updated j with | some v => some v | none => (s.disk.take s.storedLen ++ s.pushed)[j]?

/-- a change record that describes the way back from `s` to the committed `p` -/
structure Faithful (p s : V) (ch : Change) : Prop where
  stamp : ch.prevStamp = p.stamp
  psl : ch.prevStoredLen = p.storedLen
  ts : ch.truncatedStart = s.storedLen
  tv : ch.truncatedValues = (p.disk.drop s.storedLen).take (p.storedLen - s.storedLen)
  pp : ch.prevPushed = []
  ph : ch.prevHoles = p.holes
  modsDistinct : KeysDistinct ch.mods
  modsVals : ∀ kv ∈ ch.mods, kv.1 < p.storedLen ∧ p.disk[kv.1]? = some kv.2
  modsCover : ∀ k v, mapGet s.updated k = some v → (mapGet ch.mods k).isSome = true

theorem After.stored_le {p s : V} (h : After p s) (hp : CleanCommitted p) : s.storedLen ≤ s.disk.length := by
  rw [h.disk, ← hp.stored]
  exact h.le

theorem after_refl (p : V) (hp : CleanCommitted p) : After p p :=
  ⟨rfl, Nat.le_refl _, by unfold UpdInv KeysSorted; rw [hp.updated]; exact ⟨List.Pairwise.nil, by simp⟩⟩

theorem After.edited {p s t : V} (h : After p s) (e : Edited s t) (hu : UpdInv t) : After p t :=
  ⟨by rw [e.1]; exact h.disk, Nat.le_trans e.2 h.le, hu⟩

theorem after_push (p s : V) (v : Nat) (h : After p s) : After p (s.push v) :=
  h.edited (edited_push s v) (updInv_push s v h.upd)

theorem after_update (p s : V) (i v : Nat) (h : After p s) : After p (s.updateAt i v).1 :=
  h.edited (edited_updateAt s i v) (updInv_update s i v h.upd)

theorem after_delete (p s : V) (i : Nat) (h : After p s) : After p (s.deleteAt i) :=
  h.edited (edited_deleteAt s i) (updInv_delete s i h.upd)

theorem after_truncate (p s : V) (n : Nat) (hk : s.kind = .raw) (h : After p s) : After p (s.truncate n) :=
  h.edited (edited_truncate s n) (updInv_truncate s n hk h.upd)

theorem written_of_write (s : V) (b : Bool) (hk : s.kind = .raw) (h : s.writeRaw.2 = .okB b) (hu : UpdInv s)
    (hle : s.storedLen ≤ s.disk.length)
    (hdirty : s.pushed ≠ [] ∨ s.updated ≠ [] ∨ s.storedLen < s.disk.length) : Written s s.writeRaw.1 := by
  -- a write that finds nothing to do leaves the same region, and under `hle` and `hu` it cannot fail: `hdirty` and `h` are not needed
  have _ := hdirty
  have _ := h
  rw [writeRaw_fst s hle hu.2]
  exact ⟨hk, rfl, written_get s (sorted_distinct _ hu.1) hu.2 hle⟩

end AnyDB.C04r

namespace AnyDB.C04m
open VecM VecM.V C03w C04r

/-- the snapshot a cleanly committed state presents -/
def snapOf (p : V) : Snap := ⟨p.stamp, p.storedLen, p.holes, p.disk⟩

theorem shows_clean (p : V) (hp : CleanCommitted p) : Shows p (snapOf p) := by
  refine ⟨hp.raw, hp.pushed, rfl, rfl, rfl, fun i hi => ?_⟩
  rw [slotVal_clean p hp.updated i (hp.stored ▸ hi)]
  exact List.getElem_eq_getD 0

/-- of the newer snapshot only the stored length and the values matter -/
theorem faithfulS_of_faithful (p0 s0 w : V) (c : Snap) (ch : Change) (hp0 : CleanCommitted p0) (ha : After p0 s0) (hw : Written s0 w)
    (hv : c.vals = w.disk) (hpl : s0.storedLen ≤ c.storedLen) (hf : Faithful p0 s0 ch) : FaithfulS (snapOf p0) c ch := by
  have hlen : ((p0.disk.drop s0.storedLen).take (p0.storedLen - s0.storedLen)).length = p0.storedLen - s0.storedLen := by
    rw [List.length_take, List.length_drop, ← hp0.stored, Nat.min_self]
  refine ⟨hf.stamp, hf.psl, hf.pp, hf.ph, ⟨by rw [hf.ts]; exact ha.le, by rw [hf.ts]; exact hpl⟩, by rw [hf.tv, hf.ts]; exact hlen, ?_,
    hf.modsDistinct, ?_, ?_⟩
  · intro j hj
    rw [hf.tv] at hj ⊢
    rw [hf.ts]
    rw [hlen] at hj
    have hk : j < ((p0.disk.drop s0.storedLen).take (p0.storedLen - s0.storedLen)).length := by rw [hlen]; exact hj
    have hd : s0.storedLen + j < p0.disk.length := by rw [← hp0.stored]; omega
    simp only [snapOf]
    rw [List.getD_eq_getElem?_getD, List.getElem?_eq_getElem hk, List.getD_eq_getElem?_getD, List.getElem?_eq_getElem hd]
    simp only [List.getElem_take, List.getElem_drop, Option.getD_some]
  · intro kv hkv
    obtain ⟨m1, m2⟩ := hf.modsVals kv hkv
    refine ⟨m1, ?_⟩
    simp only [snapOf]
    rw [List.getD_eq_getElem?_getD, m2]; rfl
  · intro i hi hmod
    rw [hf.ts] at hi
    simp only [snapOf]
    have hsu : mapGet s0.updated i = none := by
      cases hx : mapGet s0.updated i with
      | none => rfl
      | some v =>
        have := hf.modsCover i v hx
        rw [hmod] at this
        exact absurd this Bool.false_ne_true
    have hd := hw.disk i
    rw [hsu, stored_get _ _ _ _ (ha.stored_le hp0) hi, ha.disk] at hd
    rw [hv, List.getD_eq_getElem?_getD, hd, ← List.getD_eq_getElem?_getD]

end AnyDB.C04m

namespace AnyDB.C04r
open VecM VecM.V C04m

/-- C04 for one commit / rollback pair on a raw vector: commit `p`; edit freely (pushes, truncations below the stored
length, updates, deletions); commit again — the record written is `ch`, the write leaves `w`; roll back.  Every index
then reads exactly what it read in `p`, and the stamp is `p`'s. -/
theorem C04_commit_rollback_raw (p s w : V) (ch : Change) (bytes : List UInt8)
    (hp : CleanCommitted p) (ha : After p s) (hw : Written s w) (hf : Faithful p s ch)
    (hparse : parseChange w.kind w.sz bytes = .ok ch) :
    (w.undo bytes).2 = .ok ∧ (w.undo bytes).1.stamp = p.stamp ∧ (w.undo bytes).1.storedLen = p.storedLen ∧
    (w.undo bytes).1.pushed = [] ∧ (w.undo bytes).1.holes = p.holes ∧
    ∀ i, ((w.undo bytes).1.getAny i).1 = (p.getAny i).1 := by
  -- one step of `C04_rollbacks_raw`.  `w` need not be cleanly committed (its buffer and stored length are not constrained):
  -- it is its stored slots below the stored length of `s` that the record is faithful for
  have hsl := ha.stored_le hp
  have hslots : ∀ i, i < s.storedLen → slotVal w i = w.disk.getD i 0 := fun i hi => by
    -- the write left a value in slot `i`, from the overlay or from the old region
    have hd := hw.disk i
    rw [stored_get _ _ _ _ hsl hi, List.getElem?_eq_getElem (Nat.lt_of_lt_of_le hi hsl)] at hd
    have hlt : i < w.disk.length := by
      cases hm : mapGet s.updated i <;> rw [hm] at hd <;> exact (List.getElem?_eq_some_iff.mp hd).1
    rw [slotVal_clean w hw.updated i hlt]
    exact List.getElem_eq_getD 0
  obtain ⟨u1, u2, _⟩ := undo_slots w (snapOf p) ⟨w.stamp, s.storedLen, w.holes, w.disk⟩ ch bytes hw.raw hslots
    (faithfulS_of_faithful p s w _ ch hp ha hw rfl (Nat.le_refl _) hf) hparse
  have ho := shows_clean p hp
  exact ⟨u1, u2.2.2.2.2.1, u2.2.2.1, u2.2.1, u2.2.2.2.1, fun i => by rw [shows_getAny _ _ u2 i, shows_getAny _ _ ho i]⟩

-- non-vacuity, end to end with the real record bytes: commit [10,11,12,13]; truncate to 3, update slot 1, push 50;
-- serialise the change record, write, undo — every index reads what it read at the commit
example :
    let p : V := { V.init .raw 8 3 with disk := [10, 11, 12, 13], storedLen := 4, prevStoredLen := 4, stamp := 1 }
    let s : V := (((p.truncate 3).updateAt 1 99).1).push 50
    let bytes := s.serializeChanges.1
    let w : V := (s.updateStamp 2).writeRaw.1
    (w.undo bytes).2 = .ok ∧ (w.undo bytes).1.stamp = 1 ∧
      (List.range 6).all (fun i => ((w.undo bytes).1.getAny i).1 == (p.getAny i).1) = true := by
  decide +kernel

end AnyDB.C04r
