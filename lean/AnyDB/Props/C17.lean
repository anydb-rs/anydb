import AnyDB.Model.Codec
import AnyDB.Lemmas.VecOps
import AnyDB.Generated.VecConsts

/-!
# C17 — on-disk codecs round-trip every valid value and reject garbage without panicking

Model: `AnyDB/Model/Codec.lean` over the field layout extracted from the Rust source
(`Generated/Consts.lean`: `metaFields`, `metaIdOffset`, `MAX_REGION_ID_LEN`, `PAGE_SIZE`, …).

* `C17_le_rt`        — every `w`-byte little-endian integer below `256^w` decodes to itself
                        (`u8 … u128`, `usize`, `Stamp`, `Version`, and by bit pattern `i*`, `f32`, `f64`);
* `C17_le_dec`       — and the length-checking decoder `decLE w` returns it;
* `C17_le_len`       — a slice of the wrong length is refused (`WrongLength`), never read out of bounds;
* `C17_array_rt`     — `[u8; n]` round-trips for every `n`, wrong lengths are refused;
* `C17_meta_rt`      — every valid metadata entry (aligned start, page-multiple reserve ≥ one page,
                        len ≤ reserve, UTF-8 name ≤ 1024 bytes, fields < 2^64) decodes to itself;
* `C17_meta_valid`   — whatever bytes are decoded successfully satisfy the alignment, size, length and name rules: the
                        conclusion is those six conjuncts, not `ValidMeta m` (its three `< 2^64` bounds are not stated);
* `C17_meta_size`    — any input that is not exactly one slot long is refused;
* `C17_fill_independent` — at open each slot is decoded on its own: the outcome for slot `i` depends on
                        slot `i` only, so an invalid slot never disturbs a valid one; `C17_fill_length`: one outcome per slot;
* `C17_header_rt`, `C17_page_rt`, `C17_format_rt` (all 256 byte values; `C17_format_enc` is its round-trip half),
  `C17_page_total`.
* `C17_layout`       — the extracted field layout is the one the model hard-codes (offsets 0/8/16/24, id at 32) and the
                        extracted list of guards is the nine of `decMeta`, in its order; `C17_layout_vec` — the same for
                        header, page entry, format bytes and raw flag (`Generated/VecConsts.lean`).

Totality ("never panics, never reads past the input"): every model function is total and indexes
only through `take`/`drop`; the correspondence runs the real decoders under `catch_unwind` on
valid, boundary and mutated encodings and compares result kinds and fields.
-/
namespace AnyDB.C17
open AnyDB Codec Gen

/-- the little-endian functions of the codec model are those of the vector model, written a second time -/
theorem leBytes_eq (w n : Nat) : leBytes w n = VecM.leBytes w n := by
  induction w generalizing n with
  | zero => rfl
  | succ k ih => rw [leBytes, VecM.leBytes, ih]

theorem leVal_eq (l : List UInt8) : leVal l = VecM.leVal l := by
  induction l with
  | nil => rfl
  | cons b t ih => rw [leVal, VecM.leVal, ih]

theorem leBytes_length (w n : Nat) : (leBytes w n).length = w := by
  rw [leBytes_eq]; exact VecM.leBytes_length w n

theorem C17_le_rt (w n : Nat) (h : n < 256 ^ w) : leVal (leBytes w n) = n := by
  rw [leBytes_eq, leVal_eq]; exact VecM.le_rt w n h

theorem C17_le_dec (w n : Nat) (h : n < 256 ^ w) : decLE w (leBytes w n) = some n := by
  unfold decLE; simp [leBytes_length, C17_le_rt w n h]

theorem C17_le_len (w : Nat) (bs : List UInt8) (h : bs.length ≠ w) : decLE w bs = none := by
  unfold decLE; simp [h]

theorem C17_array_rt (n : Nat) (bs : List UInt8) : decArray n bs = (if bs.length = n then some bs else none) := rfl

/-! ### reading a record of little-endian fields

Every encoder is a concatenation `leBytes w₁ n₁ ++ (leBytes w₂ n₂ ++ …)`; every decoder reads `field bs off w` at
absolute offsets.  An offset past an encoded integer skips it, offset `0` reads it back. -/

theorem drop_le (v n off : Nat) (rest : List UInt8) : (leBytes v n ++ rest).drop (off + v) = rest.drop off := by
  rw [List.drop_append, leBytes_length, Nat.add_sub_cancel, List.drop_eq_nil_of_le (by rw [leBytes_length]; omega),
    List.nil_append]

theorem field_skip (v n off w : Nat) (rest : List UInt8) :
    field (leBytes v n ++ rest) (off + v) w = field rest off w := by
  unfold field
  rw [drop_le]

theorem field_here (w n : Nat) (rest : List UInt8) (h : n < 256 ^ w) : field (leBytes w n ++ rest) 0 w = n := by
  unfold field
  rw [List.drop_zero, List.take_left' (leBytes_length w n), C17_le_rt w n h]

/-- a decoder `if c then error else …` accepts iff the guard fails and the rest accepts (`split` on a chain of such
guards simplifies the rest of the chain again at every level, which doubles the work with each guard) -/
theorem guard_ok {ε α : Type} {c : Prop} [Decidable c] {e : ε} {k : Except ε α} {a : α} :
    (if c then .error e else k) = .ok a ↔ ¬c ∧ k = .ok a := by
  by_cases hc : c
  · rw [if_pos hc]
    exact ⟨fun h => (by cases h), fun h => absurd hc h.1⟩
  · rw [if_neg hc]
    exact ⟨fun h => ⟨hc, h⟩, fun h => h.2⟩

/-- the same for `decFormat`'s chain `if c then some x else …`, taken apart one test at a time -/
theorem ite_some {α : Type} {c : Prop} [Decidable c] {x y : α} {k : Option α}
    (h : (if c then some x else k) = some y) : c ∧ x = y ∨ k = some y := by
  by_cases hc : c
  · rw [if_pos hc] at h
    exact .inl ⟨hc, Option.some.inj h⟩
  · rw [if_neg hc] at h
    exact .inr h

structure ValidMeta (m : Meta) : Prop where
  s64 : m.start < 2 ^ 64
  l64 : m.len < 2 ^ 64
  r64 : m.reserved < 2 ^ 64
  sAl : m.start % PAGE_SIZE = 0
  rMin : PAGE_SIZE ≤ m.reserved
  rAl : m.reserved % PAGE_SIZE = 0
  lenLe : m.len ≤ m.reserved
  idLen : m.id.length ≤ MAX_REGION_ID_LEN
  idUtf8 : validUtf8 m.id = true

theorem decMeta_ok_iff (bs : List UInt8) (m : Meta) : decMeta bs = .ok m ↔
    bs.length = SIZE_OF_REGION_METADATA ∧
    ¬ (field bs 0 8 = 0 ∧ field bs 8 8 = 0 ∧ field bs 16 8 = 0 ∧ field bs 24 8 = 0) ∧
    field bs 24 8 ≤ MAX_REGION_ID_LEN ∧ metaIdOffset + field bs 24 8 ≤ SIZE_OF_REGION_METADATA ∧
    validUtf8 ((bs.drop metaIdOffset).take (field bs 24 8)) = true ∧
    field bs 0 8 % PAGE_SIZE = 0 ∧ PAGE_SIZE ≤ field bs 16 8 ∧ field bs 16 8 % PAGE_SIZE = 0 ∧
    field bs 8 8 ≤ field bs 16 8 ∧
    m = { start := field bs 0 8, len := field bs 8 8, reserved := field bs 16 8,
          id := (bs.drop metaIdOffset).take (field bs 24 8) } := by
  unfold decMeta
  simp only [guard_ok, Except.ok.injEq, ne_eq, Classical.not_not, Nat.not_lt, gt_iff_lt, Bool.not_eq_true',
    Bool.not_eq_false, eq_comm (b := m)]

theorem encMeta_length (m : Meta) (h : m.id.length ≤ MAX_REGION_ID_LEN) :
    (encMeta m).length = SIZE_OF_REGION_METADATA := by
  have : MAX_REGION_ID_LEN = 1024 := rfl
  have : SIZE_OF_REGION_METADATA = 4096 := rfl
  simp only [encMeta, List.length_append, leBytes_length, List.length_replicate]
  omega

theorem encMeta_fields (m : Meta) (s64 : m.start < 2 ^ 64) (l64 : m.len < 2 ^ 64) (r64 : m.reserved < 2 ^ 64)
    (i64 : m.id.length < 2 ^ 64) :
    field (encMeta m) 0 8 = m.start ∧ field (encMeta m) 8 8 = m.len ∧ field (encMeta m) 16 8 = m.reserved ∧
    field (encMeta m) 24 8 = m.id.length ∧ ((encMeta m).drop 32).take m.id.length = m.id := by
  obtain ⟨pad, e⟩ : ∃ pad, encMeta m = leBytes 8 m.start ++ (leBytes 8 m.len ++ (leBytes 8 m.reserved ++
      (leBytes 8 m.id.length ++ (m.id ++ pad)))) :=
    ⟨_, by
      unfold encMeta
      simp only [List.append_assoc]
      rfl⟩
  rw [e]
  refine ⟨?_, ?_, ?_, ?_, ?_⟩
  · rw [field_here]
    exact s64
  · rw [field_skip _ _ 0, field_here]
    exact l64
  · rw [field_skip _ _ 8, field_skip _ _ 0, field_here]
    exact r64
  · rw [field_skip _ _ 16, field_skip _ _ 8, field_skip _ _ 0, field_here]
    exact i64
  · rw [drop_le 8 _ 24, drop_le 8 _ 16, drop_le 8 _ 8, drop_le 8 _ 0, List.drop_zero, List.take_left]

theorem C17_meta_rt (m : Meta) (v : ValidMeta m) : decMeta (encMeta m) = .ok m := by
  have hM : MAX_REGION_ID_LEN = 1024 := rfl
  have hS : SIZE_OF_REGION_METADATA = 4096 := rfl
  have hP : PAGE_SIZE = 4096 := rfl
  have hO : metaIdOffset = 32 := rfl
  have ⟨s64, l64, r64, sAl, rMin, rAl, lenLe, idLen, idUtf8⟩ := v
  obtain ⟨f0, f1, f2, f3, fid⟩ := encMeta_fields m s64 l64 r64 (by omega)
  rw [decMeta_ok_iff, hO, f0, f1, f2, f3, fid]
  exact ⟨encMeta_length m idLen, by omega, idLen, by omega, idUtf8, sAl, rMin, rAl, lenLe, rfl⟩

theorem C17_meta_size (bs : List UInt8) (h : bs.length ≠ SIZE_OF_REGION_METADATA) : decMeta bs = .error .invalidSize := by
  unfold decMeta; simp [h]

theorem C17_meta_valid (bs : List UInt8) (m : Meta) (h : decMeta bs = .ok m) :
    m.start % PAGE_SIZE = 0 ∧ PAGE_SIZE ≤ m.reserved ∧ m.reserved % PAGE_SIZE = 0 ∧ m.len ≤ m.reserved ∧
    m.id.length ≤ MAX_REGION_ID_LEN ∧ validUtf8 m.id = true := by
  obtain ⟨-, -, h2, -, h4, h5, h6, h7, h8, rfl⟩ := (decMeta_ok_iff bs m).1 h
  refine ⟨h5, h6, h7, h8, ?_, h4⟩
  rw [List.length_take]
  omega

theorem C17_fill_independent (a b : List (List UInt8)) (i : Nat) (h : a[i]? = b[i]?) :
    (fill a)[i]? = (fill b)[i]? := by
  unfold fill; simp [List.getElem?_map, h]

theorem C17_fill_length (a : List (List UInt8)) : (fill a).length = a.length := by unfold fill; simp

theorem C17_format_enc (f : Format) : decFormat (encFormat f) = some f := by cases f <;> rfl

theorem C17_format_rt (b : UInt8) (f : Format) : decFormat b = some f ↔ b = encFormat f := by
  refine ⟨fun h => ?_, fun h => h ▸ C17_format_enc f⟩
  unfold decFormat at h
  rcases ite_some h with ⟨hb, rfl⟩ | h
  · exact eq_of_beq hb
  rcases ite_some h with ⟨hb, rfl⟩ | h
  · exact eq_of_beq hb
  rcases ite_some h with ⟨hb, rfl⟩ | h
  · exact eq_of_beq hb
  rcases ite_some h with ⟨hb, rfl⟩ | h
  · exact eq_of_beq hb
  rcases ite_some h with ⟨hb, rfl⟩ | h
  · exact eq_of_beq hb
  cases h

theorem C17_header_rt (h : Header) (h1 : h.headerVersion < 2 ^ 32) (h2 : h.vecVersion < 2 ^ 32)
    (h3 : h.computedVersion < 2 ^ 32) (h4 : h.stamp < 2 ^ 64) : decHeader (encHeader h) = .ok h := by
  have e : encHeader h = leBytes 4 h.headerVersion ++ (leBytes 4 h.vecVersion ++ (leBytes 4 h.computedVersion ++
      (leBytes 8 h.stamp ++ (encFormat h.format :: List.replicate 11 0)))) := by
    unfold encHeader
    simp only [List.append_assoc, List.singleton_append]
  have hl : ¬ (encHeader h).length < HEADER_OFFSET := by
    rw [e]
    simp only [List.length_append, leBytes_length, List.length_cons, List.length_replicate]
    decide
  unfold decHeader
  -- the format byte at 20, then the four integers at 0, 4, 8, 12
  rw [if_neg hl, e, drop_le 4 _ 16, drop_le 4 _ 12, drop_le 4 _ 8, drop_le 8 _ 0, List.drop_zero, List.headD_cons,
    C17_format_enc,
    field_here _ _ _ h1,
    field_skip _ _ 0, field_here _ _ _ h2,
    field_skip _ _ 4, field_skip _ _ 0, field_here _ _ _ h3,
    field_skip _ _ 8, field_skip _ _ 4, field_skip _ _ 0, field_here _ _ _ h4]

theorem C17_page_rt (p : PageE) (h1 : p.start < 2 ^ 64) (h2 : p.bytes < 2 ^ 32) (h3 : p.values < 2 ^ 31) :
    decPage (encPage p) = some p := by
  have hR : RAW_FLAG = 2 ^ 31 := rfl
  have hv : p.values + (if p.raw then RAW_FLAG else 0) < 256 ^ 4 := by split <;> omega
  have hl : ¬ (encPage p).length < 16 := by
    unfold encPage
    simp only [List.length_append, leBytes_length]
    decide
  have e : encPage p = leBytes 8 p.start ++ (leBytes 4 p.bytes ++
      (leBytes 4 (p.values + if p.raw then RAW_FLAG else 0) ++ [])) := by
    unfold encPage
    simp only [List.append_assoc, List.append_nil]
  unfold decPage
  rw [if_neg hl, e]
  rw [field_here _ _ _ h1, field_skip _ _ 0, field_here _ _ _ h2, field_skip _ _ 4, field_skip _ _ 0,
    field_here _ _ _ hv]
  obtain ⟨s, b, v, r⟩ := p
  cases r
  · simp only [Bool.false_eq_true, if_false, Nat.add_zero, Nat.mod_eq_of_lt (hR ▸ h3), ge_iff_le,
      decide_eq_false (Nat.not_le.2 (hR ▸ h3))]
  · simp only [if_true, hR, Nat.add_mod_right, Nat.mod_eq_of_lt h3, ge_iff_le, Nat.le_add_left, decide_true]

theorem C17_page_total (bs : List UInt8) (h : bs.length < 16) : decPage bs = none := by
  unfold decPage; simp [h]

theorem C17_layout : metaFields = [("start", 0, 8), ("len", 8, 8), ("reserved", 16, 8), ("id_len", 24, 8)] ∧ metaIdOffset = 32 ∧
    metaGuards = ["sizeCheck", "emptyCheck", "idLenMax", "idLenFits", "utf8", "startAligned", "reservedMin", "reservedAligned", "lenLeReserved"] :=
  ⟨rfl, rfl, rfl⟩

theorem C17_layout_vec :
    headerFields = [("header_version", 0, 4), ("vec_version", 4, 4), ("computed_version", 8, 4), ("stamp", 12, 8), ("format", 20, 1)] ∧
    pageFields = [("start", 0, 8), ("bytes", 8, 4), ("values", 12, 4)] ∧
    formatBytes = [(0, "Bytes"), (1, "ZeroCopy"), (64, "Pco"), (65, "LZ4"), (66, "Zstd")] ∧
    RAW_FLAG = 2 ^ RAW_FLAG_SHIFT ∧ VecM.MAX_PAGE = MAX_UNCOMPRESSED_PAGE_SIZE ∧ changeRecordLengthGuard = 1 :=
  ⟨rfl, rfl, rfl, by decide, by decide, rfl⟩

/-- non-vacuity -/
example : ValidMeta { start := 8192, len := 4096, reserved := 4096, id := [0x72, 0xC3, 0xA9] } := by
  constructor <;> decide
example : (match decMeta [1, 2, 3] with | .error .invalidSize => true | _ => false) = true := by decide
example : validUtf8 [0xC0, 0x80] = false ∧ validUtf8 [0xED, 0xA0, 0x80] = false ∧ validUtf8 [0xF4, 0x90, 0x80, 0x80] = false := by decide

end AnyDB.C17
