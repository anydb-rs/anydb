import AnyDB.Lemmas.VecCursor
import AnyDB.Props.C04
import AnyDB.Props.C03Comp
/-!
# C04 on compressed vectors: the record through its bytes, one commit / rollback pair, any number of rounds

What `serializeChanges` writes for a compressed vector parses back to `recordOfC s` (`C04_record_roundtrip_comp`).  A committed
state is a snapshot (`SnapC`: stamp and contents); `undo_shows_c`: undoing a record that leads from `c` back to `c0` (`FaithfulC`)
on ANY state that presents `c` (`ShowsC`) succeeds and presents `c0`; `C04_rollbacks_comp` iterates it over an assumed chain of
records.  The model's own `commit` (`commit_facts`): for `s` reached from `p` by pushes and truncations (`SinceC`) the commit
succeeds, presents what `s` showed, is a baseline (`BaseC`), and files a record that parses and leads back to what `p` showed;
hence `C04_commit_then_rollback_comp` for one pair and `C04_commits_then_rollbacks_comp` for any number of rounds (`chain` runs
them and collects the records; `RoundsOK`: the side conditions of the byte format at every commit).
-/
namespace AnyDB.C04c
open VecM VecM.V C04 C04b C03c

def recTvC (s : V) : List Nat := if recTrunc s > 0 then s.collectStoredComp s.storedLen s.prevStoredLen else []

theorem serialize_shape_comp (s : V) (hk : s.kind = .comp) :
    s.serializeChanges.1 =
      u64b s.stamp ++ (u64b s.prevStoredLen ++ (u64b s.storedLen ++ (u64b (recTrunc s) ++ (encVals s.sz (recTvC s) ++
      (u64b s.prevPushed.length ++ (encVals s.sz s.prevPushed ++ (u64b s.pushed.length ++ (encVals s.sz s.pushed ++ [])))))))) := by
  unfold serializeChanges recTvC recTrunc
  simp only [hk, List.append_assoc, List.append_nil]
  by_cases h : s.prevStoredLen - s.storedLen > 0
  · simp only [h, if_true]
  · simp only [h, if_false]

structure RecBoundsC (s : V) : Prop where
  stamp : s.stamp < 2 ^ 64
  psl : s.prevStoredLen < 2 ^ 64
  sl : s.storedLen < 2 ^ 64
  tvv : ∀ v ∈ recTvC s, v < 256 ^ s.sz
  ppv : ∀ v ∈ s.prevPushed, v < 256 ^ s.sz
  ppl : s.prevPushed.length < 2 ^ 64
  pl : s.pushed.length < 2 ^ 64
  total : s.serializeChanges.1.length < U64

/-- the record `serializeChanges` writes for a compressed vector, as `parseChange` reads it back -/
def recordOfC (s : V) : Change :=
  { prevStamp := s.stamp, prevStoredLen := s.prevStoredLen, truncatedStart := s.prevStoredLen - recTrunc s,
    truncatedValues := recTvC s, prevPushed := s.prevPushed, mods := [], prevHoles := [] }

/-- the change record of a compressed vector round-trips through its bytes.  `tl`: as many truncated values were collected
as the record announces; it holds under `CInv` (`recTvC_spec`) -/
theorem C04_record_roundtrip_comp (s : V) (hk : s.kind = .comp) (hb : RecBoundsC s) (tl : (recTvC s).length = recTrunc s) :
    parseChange .comp s.sz s.serializeChanges.1 = .ok (recordOfC s) := by
  have h0 : CurAt { bytes := s.serializeChanges.1, pos := 0 } _ := ⟨Nat.zero_le _, hb.total, serialize_shape_comp s hk⟩
  have htr : recTrunc s < 2 ^ 64 := Nat.lt_of_le_of_lt (Nat.sub_le ..) hb.psl
  obtain ⟨c1, r1, h1⟩ := readU64_at _ _ _ h0 hb.stamp
  obtain ⟨c2, r2, h2⟩ := readU64_at _ _ _ h1 hb.psl
  obtain ⟨c3, r3, h3⟩ := readU64_at _ _ _ h2 hb.sl
  obtain ⟨c4, r4, h4⟩ := readU64_at _ _ _ h3 htr
  obtain ⟨c5, r5, h5⟩ := readValues_at _ _ _ _ h4 hb.tvv
  obtain ⟨c6, r6, h6⟩ := readU64_at _ _ _ h5 hb.ppl
  obtain ⟨c7, r7, h7⟩ := readValues_at _ _ _ _ h6 hb.ppv
  -- the buffer being written: length, then skipped
  obtain ⟨c8, r8, h8⟩ := readU64_at _ _ _ h7 hb.pl
  have g3 : ¬(s.sz * s.pushed.length ≥ U64) := h8.vals_lt
  obtain ⟨c9, r9, _⟩ := skip_at _ _ _ h8
  rw [tl] at r5
  rw [encVals_length] at r9
  unfold parseChange
  simp only [r1, r2, r3, r4]
  have g1 : ¬(recTrunc s ≠ s.prevStoredLen - s.storedLen) := fun h => h rfl
  have g2 : ¬(recTrunc s > s.prevStoredLen) := Nat.not_lt.mpr (Nat.sub_le ..)
  simp only [g1, g2, if_false, r5, r6, r7, r8, g3, r9]
  rfl

/-- `s` was reached from the baseline `p` (the state right after a commit or a rollback) by pushes and truncations -/
structure SinceC (p s : V) : Prop where
  kind : s.kind = .comp
  sz : s.sz = p.sz
  pages : s.pages = p.pages
  le : s.storedLen ≤ p.storedLen
  psl : s.prevStoredLen = p.storedLen
  pp : s.prevPushed = p.pushed
  stamp : s.stamp = p.stamp

theorem recTvC_spec (p s : V) (hp : CInv p) (h : SinceC p s) :
    recTvC s = ((pagesValues p.pages).drop s.storedLen).take (p.storedLen - s.storedLen) ∧ (recTvC s).length = recTrunc s := by
  have hpp : s.perPage = p.perPage := congrArg (MAX_PAGE / ·) h.sz
  have hL : pagesStoredLen s.pages s.perPage = (pagesValues p.pages).length := by
    rw [h.pages, hpp]
    exact pagesStoredLen_eq _ _ hp.wf
  have e : recTvC s = ((pagesValues p.pages).drop s.storedLen).take (p.storedLen - s.storedLen) := by
    unfold recTvC recTrunc
    rw [collectStoredComp_eq, h.psl, hL, h.pages, Nat.min_eq_left hp.stored]
    by_cases h0 : p.storedLen - s.storedLen > 0
    · rw [if_pos h0]
    · rw [if_neg h0, Nat.eq_zero_of_not_pos h0, List.take_zero]
  refine ⟨e, ?_⟩
  rw [e, List.length_take, List.length_drop, Nat.min_eq_left (Nat.sub_le_sub_right hp.stored _)]
  exact congrArg (· - s.storedLen) h.psl.symm

/-- a committed snapshot: its stamp and what the vector showed -/
structure SnapC where
  stamp : Nat
  content : List Nat

/-- the state `r` presents the snapshot `c` -/
def ShowsC (r : V) (c : SnapC) : Prop :=
  r.kind = .comp ∧ r.storedLen ≤ (pagesValues r.pages).length ∧ r.realStoredLen = (pagesValues r.pages).length ∧
  r.stamp = c.stamp ∧ shown r = c.content

/-- the record leads from the snapshot `c` back to `c0` -/
structure FaithfulC (c0 c : SnapC) (ch : Change) : Prop where
  stamp : ch.prevStamp = c0.stamp
  content : c0.content = c.content.take ch.truncatedStart ++ ch.truncatedValues ++ ch.prevPushed
  ts : ch.truncatedStart ≤ c.content.length

theorem undo_comp_fields (r : V) (bytes : List UInt8) (hk : r.kind = .comp) :
    (r.undo bytes).1.kind = r.kind ∧ (r.undo bytes).1.sz = r.sz ∧ (r.undo bytes).1.pages = r.pages ∧
    (r.undo bytes).1.changes = r.changes := by
  cases hp : parseChange r.kind r.sz bytes with
  | error e => rw [undo_refused r bytes e hp]; exact ⟨rfl, rfl, rfl, rfl⟩
  | ok ch => rw [undo_comp r bytes ch hk hp]; exact ⟨rfl, rfl, rfl, rfl⟩

theorem undo_shows_c (r : V) (c0 c : SnapC) (ch : Change) (bytes : List UInt8) (hs : ShowsC r c) (hf : FaithfulC c0 c ch)
    (hp : parseChange r.kind r.sz bytes = .ok ch) : (r.undo bytes).2 = .ok ∧ ShowsC (r.undo bytes).1 c0 := by
  obtain ⟨h1, h2, h3, _, h5⟩ := hs
  obtain ⟨u1, u2, u3⟩ := C04_comp_undo_logical r bytes ch h1 hp h2 h3 (by
    show _ ≤ r.len
    rw [← shown_len r h2, h5]
    exact hf.ts)
  obtain ⟨v1, _⟩ := C04_comp_undo_stored_ok r bytes ch h1 hp
  obtain ⟨f1, _, f3, _⟩ := undo_comp_fields r bytes h1
  have hreal : (r.undo bytes).1.realStoredLen = r.realStoredLen := by
    rw [undo_comp r bytes ch h1 hp]
    rfl
  refine ⟨u1, by rw [f1]; exact h1, by rw [f3, ← h3]; exact v1, by rw [hreal, f3]; exact h3, by rw [u3]; exact hf.stamp, ?_⟩
  have hlog : ∀ x : V, C04.logical x = shown x := fun _ => rfl
  rw [hlog, hlog, h5] at u2
  rw [u2, hf.content]

abbrev StepC := SnapC × List UInt8 × Change

def bottomC : SnapC → List StepC → SnapC
  | c, [] => c
  | _, st :: t => bottomC st.1 t

def StepsOKC (sz : Nat) : SnapC → List StepC → Prop
  | _, [] => True
  | c, st :: t => FaithfulC st.1 c st.2.2 ∧ parseChange .comp sz st.2.1 = .ok st.2.2 ∧ StepsOKC sz st.1 t

def undoAllC (r : V) (steps : List StepC) : V := steps.foldl (fun r st => (r.undo st.2.1).1) r

/-- **C04 for the compressed formats, repeatedly**: from ANY state that presents the newest committed snapshot, undoing the
retained records one after the other — each faithful for its commit — ends in a state that presents the oldest snapshot of the
chain: its stamp and exactly its contents.  (`undoAllC` drops the answers; that each undo on the way succeeds is `undo_shows_c`.) -/
theorem C04_rollbacks_comp (steps : List StepC) (r : V) (c : SnapC) (hs : ShowsC r c) (hok : StepsOKC r.sz c steps) :
    ShowsC (undoAllC r steps) (bottomC c steps) ∧ (undoAllC r steps).sz = r.sz := by
  induction steps generalizing r c with
  | nil => exact ⟨hs, rfl⟩
  | cons st t ih =>
    obtain ⟨h1, h2, h3⟩ := hok
    have hparse : parseChange r.kind r.sz st.2.1 = .ok st.2.2 := by rw [hs.1]; exact h2
    obtain ⟨_, hshow⟩ := undo_shows_c r st.1 c st.2.2 st.2.1 hs h1 hparse
    have hsz : (r.undo st.2.1).1.sz = r.sz := (undo_comp_fields r st.2.1 hs.1).2.1
    have := ih (r.undo st.2.1).1 st.1 hshow (by rw [hsz]; exact h3)
    simp only [undoAllC, List.foldl_cons, bottomC] at this ⊢
    exact ⟨this.1, by rw [this.2, hsz]⟩

/-- a baseline: the state right after a commit or a rollback -/
structure BaseC (p : V) : Prop where
  inv : CInv p
  sync : CSync p
  psl : p.prevStoredLen = p.storedLen
  pp : p.prevPushed = p.pushed

theorem commit_comp_eq (s : V) (st : Nat) (cs : List Nat) (hk : s.kind = .comp) (hkeep : s.keep ≠ 0) :
    ∃ s1 : V, (∃ hm, s1 = { s with stamp := st, hdrModified := hm, oob := s.oob || s.serializeChanges.2,
                                    changes := pruned s st s.serializeChanges.1, dirExists := true }) ∧
      s.commit st cs = match (s1.writeComp cs).2 with
        | .okB b => ({ (s1.writeComp cs).1 with prevStoredLen := (s1.writeComp cs).1.storedLen, prevPushed := [] }, .okB b)
        | o => ((s1.writeComp cs).1, o) := by
  obtain ⟨s1, ⟨hm, e1⟩, e⟩ := commit_eq s st cs hkeep
  have hk1 : s1.kind = .comp := by rw [e1]; exact hk
  have hk2 : (s1.writeComp cs).1.kind = .comp := (writeComp_frame s1 cs).2.2.2.trans hk1
  rw [write_comp s1 cs hk1, rebased_comp _ hk2] at e
  exact ⟨s1, ⟨hm, e1⟩, e⟩

theorem shows_of_cinv (r : V) (h : CInv r) : ShowsC r ⟨r.stamp, shown r⟩ := by
  refine ⟨h.kind, h.stored, ?_, rfl, rfl⟩
  rw [realStoredLen_comp r h.kind]
  exact pagesStoredLen_eq _ _ h.wf

theorem commit_facts (p s : V) (st : Nat) (cs : List Nat)
    (hp : CInv p) (h : SinceC p s) (hi : CInv s) (hsy : CSync s) (hkeep : s.keep ≠ 0) (hb : RecBoundsC s) :
    (∃ b, (s.commit st cs).2 = .okB b) ∧
    ShowsC (s.commit st cs).1 ⟨st, shown s⟩ ∧ BaseC (s.commit st cs).1 ∧
    (s.commit st cs).1.sz = s.sz ∧ (s.commit st cs).1.pushed = [] ∧
    (s.commit st cs).1.changes.find? (·.1 == (s.commit st cs).1.stamp) = some (st, s.serializeChanges.1) ∧
    parseChange .comp s.sz s.serializeChanges.1 = .ok (recordOfC s) ∧
    FaithfulC ⟨p.stamp, shown p⟩ ⟨st, shown s⟩ (recordOfC s) := by
  obtain ⟨s1, ⟨hm, e1⟩, e⟩ := commit_comp_eq s st cs h.kind hkeep
  have hi1 : CInv s1 := by rw [e1]; exact ⟨hi.kind, hi.pp, hi.wf, hi.stored⟩
  have hsy1 : CSync s1 := by rw [e1]; exact ⟨hsy.chain, hsy.data, hsy.noChange, hsy.index⟩
  have hsh1 : shown s1 = shown s := by rw [e1]; rfl
  obtain ⟨⟨b, hb1⟩, w1, w2, w3, w4⟩ := writeComp_total s1 cs hi1 hsy1
  obtain ⟨_, _, _, _, _, _, _, _, _, ef⟩ := writeComp_frame_all s1 cs
  rw [e, hb1]
  generalize (s1.writeComp cs).1 = c at *
  have hsz : c.sz = s.sz := by rw [ef, e1]
  have hst : c.stamp = st := by rw [ef, e1]
  have hch : c.changes = pruned s st s.serializeChanges.1 := by rw [ef, e1]
  have hshow := shows_of_cinv c w2
  rw [hst, w1, hsh1] at hshow
  obtain ⟨tv1, tv2⟩ := recTvC_spec p s hp h
  have hts : (recordOfC s).truncatedStart = s.storedLen := by
    show s.prevStoredLen - (s.prevStoredLen - s.storedLen) = s.storedLen
    rw [h.psl]
    exact Nat.sub_sub_self h.le
  refine ⟨⟨b, rfl⟩, hshow, ⟨⟨w2.kind, w2.pp, w2.wf, w2.stored⟩, ⟨w3.chain, w3.data, w3.noChange, w3.index⟩, rfl, w4.symm⟩,
    hsz, w4, ?_, C04_record_roundtrip_comp s h.kind hb tv2, ⟨h.stamp, ?_, ?_⟩⟩
  · show c.changes.find? (·.1 == c.stamp) = _
    rw [hch, hst]; exact find_pruned s st _
  · -- what `p` showed = what `s` still shows of it, the truncated values, and `p`'s buffer
    show shown p = (shown s).take (recordOfC s).truncatedStart ++ recTvC s ++ s.prevPushed
    rw [hts, h.pp, tv1]
    rw [shown_take s hi.stored _ (Nat.le_refl _), h.pages]
    unfold shown
    have hP : p.storedLen = s.storedLen + (p.storedLen - s.storedLen) := (Nat.add_sub_of_le h.le).symm
    conv => lhs; rw [hP, List.take_add]
  · rw [hts, shown_length s hi]
    exact Nat.le_add_right _ _

/-- **C04 on the model's own `commit` and `rollback`, compressed formats**: `p` a baseline (just committed or just rolled
back), `s` reached from it by pushes and truncations, retention on; the commit of `s` succeeds (whatever the compressor
answers) — then `rollback` succeeds and the vector shows exactly what `p` showed, under `p`'s stamp.  The record travels
through its BYTES. -/
theorem C04_commit_then_rollback_comp (p s : V) (st : Nat) (cs : List Nat)
    (hp : CInv p) (h : SinceC p s) (hi : CInv s) (hsy : CSync s) (hkeep : s.keep ≠ 0) (hb : RecBoundsC s) :
    (∃ b, (s.commit st cs).2 = .okB b) ∧
    ((s.commit st cs).1.rollback).2 = .ok ∧ ((s.commit st cs).1.rollback).1.stamp = p.stamp ∧
    shown ((s.commit st cs).1.rollback).1 = shown p := by
  obtain ⟨hok, hshow, _, hsz, _, hfind, hparse, hfaith⟩ := commit_facts p s st cs hp h hi hsy hkeep hb
  have hst : (s.commit st cs).1.stamp = st := hshow.2.2.2.1
  rw [hst] at hfind
  have hrb := (C04.C04_rollback_uses_current_stamp (s.commit st cs).1 st s.serializeChanges.1 (by rw [hst]; exact hfind)).1
  rw [hrb]
  obtain ⟨u1, u2⟩ := undo_shows_c (s.commit st cs).1 ⟨p.stamp, shown p⟩ ⟨st, shown s⟩ (recordOfC s) s.serializeChanges.1 hshow hfaith
    (by rw [hshow.1, hsz]; exact hparse)
  exact ⟨hok, u1, u2.2.2.2.1, u2.2.2.2.2⟩

inductive PEdit
  | push (v : Nat) | truncate (n : Nat)
deriving Repr

def applyP (s : V) : PEdit → V
  | .push v => s.push v
  | .truncate n => s.truncate n

theorem edited_applyP (s : V) (e : PEdit) : Edited s (applyP s e) := by
  cases e with
  | push v => exact edited_push s v
  | truncate n => exact edited_truncate s n

theorem SinceC.edited {p s t : V} (h : SinceC p s) (e : Edited s t) : SinceC p t := by
  have e1 := e.1
  exact ⟨by rw [e1]; exact h.kind, by rw [e1]; exact h.sz, by rw [e1]; exact h.pages, Nat.le_trans e.2 h.le,
    by rw [e1]; exact h.psl, by rw [e1]; exact h.pp, by rw [e1]; exact h.stamp⟩

theorem since_edits (p : V) (es : List PEdit) (hb : BaseC p) :
    SinceC p (es.foldl applyP p) ∧ CInv (es.foldl applyP p) ∧ CSync (es.foldl applyP p) ∧ (es.foldl applyP p).keep = p.keep ∧
    (es.foldl applyP p).changes = p.changes := by
  suffices hh : ∀ (s : V), SinceC p s → CInv s → CSync s → s.keep = p.keep → s.changes = p.changes →
      SinceC p (es.foldl applyP s) ∧ CInv (es.foldl applyP s) ∧ CSync (es.foldl applyP s) ∧ (es.foldl applyP s).keep = p.keep ∧
      (es.foldl applyP s).changes = p.changes from
    hh p ⟨hb.inv.kind, rfl, rfl, Nat.le_refl _, hb.psl, hb.pp, rfl⟩ hb.inv hb.sync rfl rfl
  induction es with
  | nil => intro s h1 h2 h3 h4 h5; exact ⟨h1, h2, h3, h4, h5⟩
  | cons e t ih =>
    intro s h1 h2 h3 h4 h5
    have ed := edited_applyP s e
    exact ih _ (h1.edited ed) (h2.edited ed) (h3.edited ed) (by rw [ed.1]; exact h4) (by rw [ed.1]; exact h5)

abbrev Round := List PEdit × Nat × List Nat

/-- run the rounds (edits, then `commit` under the round's stamp); returns the final state and, newest first, for every
commit the snapshot from before its round (what its record leads back to), the bytes of its record and the record -/
def chain (p : V) : List Round → V × List StepC
  | [] => (p, [])
  | r :: t =>
    let s := r.1.foldl applyP p
    let q := chain (s.commit r.2.1 r.2.2).1 t
    (q.1, q.2 ++ [(⟨p.stamp, shown p⟩, s.serializeChanges.1, recordOfC s)])

/-- the side conditions of the byte format at every commit: retention on, values fit the element size, lengths fit 64 bits -/
def RoundsOK (p : V) : List Round → Prop
  | [] => True
  | r :: t => (r.1.foldl applyP p).keep ≠ 0 ∧ RecBoundsC (r.1.foldl applyP p) ∧ RoundsOK ((r.1.foldl applyP p).commit r.2.1 r.2.2).1 t

/-- **C04, compressed formats, repeatedly**: from a baseline, any number of rounds of (pushes and truncations, then `commit` —
whatever the compressor answers); then undo ALL the records, newest first (`undoAllC`, which drops the answers; each undo
succeeds by `undo_shows_c`): the vector shows exactly what it showed at the baseline, under the baseline's stamp.  Every record
travels through its bytes. -/
theorem C04_commits_then_rollbacks_comp (p : V) (rs : List Round) (hb : BaseC p) (hok : RoundsOK p rs) :
    ShowsC (undoAllC (chain p rs).1 (chain p rs).2) ⟨p.stamp, shown p⟩ ∧ (undoAllC (chain p rs).1 (chain p rs).2).sz = p.sz := by
  induction rs generalizing p with
  | nil =>
    exact ⟨shows_of_cinv p hb.inv, rfl⟩
  | cons r t ih =>
    obtain ⟨hkeep, hrec, hrest⟩ := hok
    obtain ⟨hsince, hi, hsy, _, _⟩ := since_edits p r.1 hb
    obtain ⟨_, hshow, hbc, hsz, _, _, hparse, hfaith⟩ :=
      commit_facts p (r.1.foldl applyP p) r.2.1 r.2.2 hb.inv hsince hi hsy hkeep hrec
    obtain ⟨i1, i2⟩ := ih _ hbc hrest
    have hsnap : (⟨((r.1.foldl applyP p).commit r.2.1 r.2.2).1.stamp, shown ((r.1.foldl applyP p).commit r.2.1 r.2.2).1⟩ : SnapC) =
        ⟨r.2.1, shown (r.1.foldl applyP p)⟩ := by rw [hshow.2.2.2.1, hshow.2.2.2.2]
    rw [hsnap] at i1
    simp only [chain, undoAllC, List.foldl_append, List.foldl_cons, List.foldl_nil]
    have hszq : (undoAllC (chain ((r.1.foldl applyP p).commit r.2.1 r.2.2).1 t).1 (chain ((r.1.foldl applyP p).commit r.2.1 r.2.2).1 t).2).sz = p.sz := by
      rw [i2, hsz, hsince.sz]
    obtain ⟨_, u2⟩ := undo_shows_c _ ⟨p.stamp, shown p⟩ ⟨r.2.1, shown (r.1.foldl applyP p)⟩ (recordOfC (r.1.foldl applyP p))
      (r.1.foldl applyP p).serializeChanges.1 i1 hfaith (by rw [i1.1, hszq, ← hsince.sz]; exact hparse)
    exact ⟨u2, ((undo_comp_fields _ _ i1.1).2.1).trans hszq⟩

/-- non-vacuity: two rounds on a vector of 8-byte elements, then both records undone — back to the empty baseline;
    after the first undo alone the vector shows the first commit -/
def exRounds : List Round := [([.push 1, .push 2, .push 3], 1, []), ([.truncate 1, .push 9], 2, [])]
example : shown (undoAllC (chain (V.init .comp 8 2) exRounds).1 (chain (V.init .comp 8 2) exRounds).2) = [] := by decide +kernel
example : shown (chain (V.init .comp 8 2) exRounds).1 = [1, 9] := by decide
example : shown (undoAllC (chain (V.init .comp 8 2) exRounds).1 ((chain (V.init .comp 8 2) exRounds).2.take 1)) = [1, 2, 3] := by decide +kernel
end AnyDB.C04c
