import AnyDB.Props.C04
import AnyDB.Props.C04Record
import AnyDB.Props.C04Raw

/-!
# C04 — `commit` then `rollback` on the model's own functions (raw formats, one pair, through the bytes)

`C04_commit_then_rollback_raw`: `p` cleanly committed; `s` reached from it by ANY pushes, truncations, updates and
deletions (`Since p s`, established at the commit by `since_refl` and kept by every such edit: `since_*`); retention on;
numbers fit their record fields (`RecBounds`).  Then `rollback` on the committed state succeeds, EVERY index reads exactly
what it read in `p`, and stamp, stored length, buffer and deleted slots are `p`'s.  That the commit of `s` succeeds (`hc`)
and that there is something to write (`hdirty`) are stated and not needed: the write of a state reached this way finds the
stored length inside the region and cannot fail.

The chain: `commit` serialises the record (`serializeChanges`), files it under the new stamp, writes (`writeRaw_eq`:
the write cannot fail and leaves `written`); `rollback` finds the record filed under the current stamp
(`C04_rollback_uses_current_stamp`), parses it back (`C04_record_roundtrip`, bytes), the parsed record describes
the way back (`faithful_recordOf`), and the undo restores (`C04_commit_rollback_raw`).
What is NOT covered by this theorem: `take`/`fill` among the edits and re-import between commit and rollback — those
stay with the correspondence against the stack-of-committed-states oracle.  The compressed formats: Props/C04Comp.lean.
Several rollbacks in a row: Props/C04Multi.lean, for records that are faithful for their commits.
-/
namespace AnyDB.C04c
open VecM VecM.V C03w C04r C04b

/-- `s` was reached from the cleanly committed `p` by plain edits: the baseline fields still describe `p` -/
structure Since (p s : V) : Prop where
  after : After p s
  kind : s.kind = .raw
  stamp : s.stamp = p.stamp
  psl : s.prevStoredLen = p.storedLen
  pp : s.prevPushed = []
  pu : s.prevUpdated = []
  ph : s.prevHoles = p.holes
  holesSorted : p.holes.Pairwise (· < ·)

theorem since_refl (p : V) (hp : CleanCommitted p) (h1 : p.prevStoredLen = p.storedLen) (h2 : p.prevPushed = [])
    (h3 : p.prevUpdated = []) (h4 : p.prevHoles = p.holes) (h5 : p.holes.Pairwise (· < ·)) : Since p p :=
  ⟨after_refl p hp, hp.raw, rfl, h1, h2, h3, h4, h5⟩

theorem Since.edited {p s t : V} (h : Since p s) (e : Edited s t) (hu : UpdInv t) : Since p t := by
  have e1 := e.1
  exact ⟨h.after.edited e hu, by rw [e1]; exact h.kind, by rw [e1]; exact h.stamp, by rw [e1]; exact h.psl,
    by rw [e1]; exact h.pp, by rw [e1]; exact h.pu, by rw [e1]; exact h.ph, h.holesSorted⟩

theorem since_push (p s : V) (v : Nat) (h : Since p s) : Since p (s.push v) :=
  h.edited (edited_push s v) (updInv_push s v h.after.upd)

theorem since_update (p s : V) (i v : Nat) (h : Since p s) : Since p (s.updateAt i v).1 :=
  h.edited (edited_updateAt s i v) (updInv_update s i v h.after.upd)

theorem since_delete (p s : V) (i : Nat) (h : Since p s) : Since p (s.deleteAt i) :=
  h.edited (edited_deleteAt s i) (updInv_delete s i h.after.upd)

theorem since_truncate (p s : V) (n : Nat) (h : Since p s) : Since p (s.truncate n) :=
  h.edited (edited_truncate s n) (updInv_truncate s n h.kind h.after.upd)

theorem recKeys_since (p s : V) (h : Since p s) : recKeys s = s.updated.map (·.1) := by
  unfold recKeys
  rw [h.pu, List.map_nil, List.append_nil,
    foldl_setInsert_sorted [] _ (List.pairwise_map.mpr h.after.upd.1) (fun _ ha => nomatch ha), List.nil_append]

theorem recVals_since (p s : V) (h : Since p s) : recVals s = (recKeys s).map (fun k => (s.diskRead k).1) := by
  rw [recVals_eq]
  simp only [h.pu, mapGet_nil, Option.getD_none]

theorem collect_since (p s : V) (h : Since p s) (a b : Nat) :
    (s.collectStoredRaw a b).1 = (List.range (b - a)).map (fun k => (s.diskRead (a + k)).1) := by
  rw [collectStoredRaw_eq]
  simp only [h.pu, mapGet_nil, Option.getD_none]

theorem recTv_since (p s : V) (hp : CleanCommitted p) (h : Since p s) :
    recTv s = (p.disk.drop s.storedLen).take (p.storedLen - s.storedLen) := by
  unfold recTv recTrunc
  rw [h.psl]
  by_cases ht : p.storedLen - s.storedLen > 0
  · rw [if_pos ht, collect_since p s h]
    apply List.ext_getElem
    · rw [List.length_map, List.length_range, List.length_take, List.length_drop, ← hp.stored, Nat.min_self]
    · intro i h1 h2
      simp only [List.length_map, List.length_range] at h1
      simp only [List.getElem_map, List.getElem_range, List.getElem_take, List.getElem_drop]
      have hi : s.storedLen + i < s.disk.length := by rw [h.after.disk, ← hp.stored]; omega
      rw [diskRead_val s _ hi]
      simp only [h.after.disk]
  · rw [if_neg ht, Nat.eq_zero_of_not_pos ht, List.take_zero]

/-- the record the next commit writes describes the way back to `p` -/
theorem faithful_recordOf (p s : V) (hp : CleanCommitted p) (h : Since p s) : Faithful p s (recordOf s) := by
  have hk := recKeys_since p s h
  have hv := recVals_since p s h
  have hle := h.after.le
  have hmods : (recordOf s).mods = (recKeys s).map (fun k => (k, (s.diskRead k).1)) := by
    unfold recordOf; simp only; rw [hv, zip_map_self]
  have hsorted : (recKeys s).Pairwise (· < ·) := by
    rw [hk]; exact List.pairwise_map.mpr h.after.upd.1
  have hkeys_lt : ∀ k ∈ recKeys s, k < s.storedLen := by
    intro k hkm
    rw [hk] at hkm
    obtain ⟨kv, hkv, rfl⟩ := List.mem_map.mp hkm
    exact h.after.upd.2 kv hkv
  refine ⟨?_, ?_, ?_, ?_, ?_, ?_, ?_, ?_, ?_⟩
  · exact h.stamp
  · exact h.psl
  · show s.prevStoredLen - recTrunc s = s.storedLen
    unfold recTrunc
    rw [h.psl]
    exact Nat.sub_sub_self hle
  · exact recTv_since p s hp h
  · exact h.pp
  · show s.prevHoles.foldl setInsert [] = p.holes
    rw [h.ph, foldl_setInsert_sorted [] p.holes h.holesSorted (fun _ ha => nomatch ha), List.nil_append]
  · rw [hmods]
    exact keysDistinct_map_pairs _ _ hsorted
  · intro kv hkv
    rw [hmods] at hkv
    obtain ⟨k, hkm, rfl⟩ := List.mem_map.mp hkv
    have h1 := hkeys_lt k hkm
    have hlen : k < s.disk.length := by rw [h.after.disk, ← hp.stored]; omega
    refine ⟨by simp only; omega, ?_⟩
    rw [diskRead_val s k hlen]
    have hlen' : k < p.disk.length := by rw [← h.after.disk]; exact hlen
    rw [List.getElem?_eq_getElem hlen']
    simp only [h.after.disk]
  · intro k v hkv
    rw [hmods, mapGet_map_pairs]
    have : k ∈ recKeys s := by rw [hk]; exact mem_keys_of_mapGet _ _ _ hkv
    rw [if_pos this]
    rfl

theorem C04_commit_then_rollback_raw (p s : V) (st : Nat) (b : Bool)
    (hp : CleanCommitted p) (h : Since p s) (hkeep : s.keep ≠ 0) (hb : RecBounds s)
    (hdirty : s.pushed ≠ [] ∨ s.updated ≠ [] ∨ s.storedLen < s.disk.length)
    (hc : (s.commit st []).2 = .okB b) :
    ((s.commit st []).1.rollback).2 = .ok ∧ ((s.commit st []).1.rollback).1.stamp = p.stamp ∧
    ((s.commit st []).1.rollback).1.storedLen = p.storedLen ∧ ((s.commit st []).1.rollback).1.pushed = [] ∧
    ((s.commit st []).1.rollback).1.holes = p.holes ∧
    ∀ i, (((s.commit st []).1.rollback).1.getAny i).1 = (p.getAny i).1 := by
  have _ := hdirty
  have _ := hc
  -- the state that is written is `s` with the record filed and the new stamp
  obtain ⟨s1, ⟨hm, e1⟩, e⟩ := commit_eq s st [] hkeep
  have hk1 : s1.kind = .raw := by rw [e1]; exact h.kind
  have ha1 : After p s1 := by rw [e1]; exact ⟨h.after.disk, h.after.le, h.after.upd⟩
  have hle1 := ha1.stored_le hp
  -- the write cannot fail and leaves `written s1`; the commit then takes the baseline of the next record
  obtain ⟨bb, hw⟩ := writeRaw_eq s1 hle1 ha1.upd.2
  have ew : s1.write [] = (written s1, .okB bb) := (write_raw s1 [] hk1).trans hw
  rw [ew] at e
  rw [e]
  show ((rebased (written s1)).rollback).2 = .ok ∧ _
  rw [rebased_raw _ (show (written s1).kind = .raw from hk1)]
  generalize hcst : ({ written s1 with prevStoredLen := (written s1).storedLen, prevPushed := [], prevHoles := (written s1).holes, prevUpdated := [] } : V) = c
  -- rollback finds the record filed under the commit's stamp; it parses to `recordOf s`, which describes the way back
  have hfind : c.changes.find? (·.1 == c.stamp) = some (st, s.serializeChanges.1) := by
    rw [← hcst, e1]; exact find_pruned s st _
  rw [(C04.C04_rollback_uses_current_stamp c st s.serializeChanges.1 hfind).1]
  have hf := faithful_recordOf p s hp h
  refine C04_commit_rollback_raw p s1 c (recordOf s) s.serializeChanges.1 hp ha1 ?_ ?_ ?_
  · rw [← hcst]; exact ⟨hk1, rfl, written_get s1 (sorted_distinct _ ha1.upd.1) ha1.upd.2 hle1⟩
  · rw [e1]; exact ⟨hf.stamp, hf.psl, hf.ts, hf.tv, hf.pp, hf.ph, hf.modsDistinct, hf.modsVals, hf.modsCover⟩
  · have hsz : c.sz = s.sz := by rw [← hcst, e1]; rfl
    rw [show c.kind = .raw by rw [← hcst]; exact hk1, hsz]
    exact C04_record_roundtrip s h.kind hb

end AnyDB.C04c
