import AnyDB.Model.ReadPaths

/-!
# C08 — all read paths agree for every range and never panic

The reference is the logical contents restricted to the range (`(items.drop a).take (b - a)` with
deleted slots dropped); the check runs every read API of every stored format against it (per state 24 ranges
× 11 range APIs and 12 point reads, on the read-write vector and on its read-only clone; both stored-only scan
back-ends on every range; a cursor script and a sorted read on states without deleted slots) and compares the
primary path's answers with the model's (`readHash`).

Proved here — the index arithmetic of the paths, for all lists, ranges, page sizes and chunk sizes:

* `C08_rawClean`      — the clean raw path (stored slice then buffered slice, both ends clamped) returns
                         exactly `(disk.take stored ++ pushed)` restricted to `[from, to)`; reversed and
                         out-of-range requests yield `[]`;
* `C08_cursor_get`    — a cursor's chunk-aligned refill answers `get(i)` with element `i` (for every
                         chunk size ≥ 1) and with nothing beyond the end;
* `C08_pages_single`  — a range inside one page reads `page[from - start, to - start)` (Props/C08Pages.lean);
* `C08_dirty_no_overlay` — with no deleted and no updated slot the merged iteration is the disk slice (with them, for
                         every state: `C08_dirty_stored`, Props/C08Dirty.lean).

The model (Model/ReadPaths.lean) mirrors the repaired code; the three `fix:` commits: a range that
starts in the buffered part of a vector with deleted/updated slots panicked (F23), the overlay
iterator fell behind after a deleted slot that still carried an overlay entry (F25), and
`collect_range` with a huge upper bound panicked with a capacity overflow (F22).
-/
namespace AnyDB.C08
open ReadPaths

/-- the reference: a logical list restricted to `[a, b)` -/
def sliceOf (l : List Nat) (a b : Nat) : List Nat := (l.drop a).take (min b l.length - a)

theorem sliceOf_eq (l : List Nat) (a b : Nat) : sliceOf l a b = (l.take b).drop a := by
  unfold sliceOf
  rw [List.drop_take]
  rcases Nat.le_total b l.length with h | h
  · rw [Nat.min_eq_left h]
  · rw [Nat.min_eq_right h, List.take_of_length_le (Nat.le_of_eq List.length_drop),
      List.take_of_length_le (by rw [List.length_drop]; exact Nat.sub_le_sub_right h a)]

theorem sliceOf_nil (a b : Nat) : sliceOf [] a b = [] := by rw [sliceOf_eq, List.take_nil, List.drop_nil]

theorem sliceOf_append (a b : List Nat) (f t : Nat) :
    sliceOf (a ++ b) f t = sliceOf a f t ++ sliceOf b (f - a.length) (t - a.length) := by
  rw [sliceOf_eq, sliceOf_eq, sliceOf_eq, List.take_append, List.drop_append, List.length_take]
  rcases Nat.le_total a.length t with h | h
  · rw [Nat.min_eq_right h]
  · rw [Nat.sub_eq_zero_of_le h, List.take_zero, List.drop_nil, List.drop_nil]

theorem sliceOf_reversed (l : List Nat) (a b : Nat) (h : b ≤ a) : sliceOf l a b = [] := by
  unfold sliceOf
  rw [Nat.sub_eq_zero_of_le (Nat.le_trans (Nat.min_le_left ..) h), List.take_zero]

theorem sliceOf_beyond (l : List Nat) (a b : Nat) (h : l.length ≤ a) : sliceOf l a b = [] := by
  unfold sliceOf
  rw [Nat.sub_eq_zero_of_le (Nat.le_trans (Nat.min_le_right ..) h), List.take_zero]

theorem sliceOf_clamp (l : List Nat) (a b n : Nat) (h : l.length ≤ n) : sliceOf l (min a n) (min b n) = sliceOf l a b := by
  rw [sliceOf_eq, sliceOf_eq, ← List.take_take, List.take_of_length_le h]
  rcases Nat.le_total a n with ha | ha
  · rw [Nat.min_eq_left ha]
  · have hb : (l.take b).length ≤ n := Nat.le_trans (List.length_take_le' b l) h
    rw [Nat.min_eq_right ha, List.drop_of_length_le hb, List.drop_of_length_le (Nat.le_trans hb ha)]

theorem rawCleanRead_halves (disk pushed : List Nat) (stored f t : Nat) (hs : stored ≤ disk.length) :
    (if f < stored then (disk.drop f).take (min t stored - f) else []) ++
      (if t > stored then (pushed.drop (max f stored - stored)).take (min (t - stored) pushed.length - (max f stored - stored)) else [])
    = sliceOf (disk.take stored ++ pushed) f t := by
  rw [sliceOf_append, List.length_take_of_le hs]
  congr 1
  · rw [sliceOf_eq, List.take_take, List.drop_take]
    by_cases h : f < stored
    · rw [if_pos h]
    · rw [if_neg h, Nat.sub_eq_zero_of_le (Nat.le_trans (Nat.min_le_right ..) (Nat.le_of_not_lt h)), List.take_zero]
  · by_cases h : t > stored
    · rw [if_pos h, ← Nat.sub_eq_max_sub]
      rfl
    · rw [if_neg h, sliceOf_reversed _ _ _ (by rw [Nat.sub_eq_zero_of_le (Nat.le_of_not_lt h)]; exact Nat.zero_le _)]

theorem C08_rawClean (disk pushed : List Nat) (stored from_ to : Nat) (hs : stored ≤ disk.length) :
    rawCleanRead disk pushed stored from_ to = sliceOf (disk.take stored ++ pushed) from_ to := by
  have hl : (disk.take stored ++ pushed).length ≤ stored + pushed.length := by
    rw [List.length_append, List.length_take]
    exact Nat.add_le_add_right (Nat.min_le_left ..) _
  rw [← sliceOf_clamp _ from_ to (stored + pushed.length) hl]
  unfold rawCleanRead
  simp only []
  split
  · rename_i hge
    rw [sliceOf_reversed _ _ _ hge]
  · exact rawCleanRead_halves disk pushed stored _ _ hs

theorem C08_cursor_get (l : List Nat) (chunk at_ : Nat) (hc : 0 < chunk) : cursorGet l chunk at_ = l[at_]? := by
  unfold cursorGet
  by_cases h : at_ ≥ l.length
  · rw [if_pos h]
    exact (List.getElem?_eq_none h).symm
  · rw [if_neg h]
    have hal : at_ / chunk * chunk ≤ at_ := Nat.div_mul_le_self at_ chunk
    have hlt : at_ < at_ / chunk * chunk + chunk := Nat.lt_div_mul_add hc
    generalize at_ / chunk * chunk = al at hal hlt
    simp only []
    -- the refill buffer is the slice `[al, al + chunk)`, and `at_` lies inside it
    have hb : ((l.drop al).take (min (al + chunk) l.length - al))[at_ - al]? = l[at_]? := by
      show (sliceOf l al (al + chunk))[at_ - al]? = _
      rw [sliceOf_eq, List.getElem?_drop, Nat.add_sub_cancel' hal, List.getElem?_take_of_lt hlt]
    rw [hb, if_neg]
    intro he
    rw [List.isEmpty_iff.mp he, List.getElem?_nil] at hb
    exact h (List.getElem?_eq_none_iff.mp hb.symm)

theorem C08_dirty_no_overlay (disk : List Nat) (i n : Nat) (h : i + n ≤ disk.length) :
    dirtyStored disk i n [] [] = (disk.drop i).take n := by
  induction n generalizing i with
  | zero => rfl
  | succ k ih =>
    simp only [dirtyStored]
    rw [ih (i + 1) (by omega)]
    have hi : i < disk.length := by omega
    rw [List.drop_eq_getElem_cons hi, List.take_succ_cons]
    rw [List.getD_eq_getElem?_getD, List.getElem?_eq_getElem hi]
    rfl

/-- non-vacuity / the F25 history on the model: slot 0 deleted AND overlaid, slot 2 overlaid -/
example : dirtyStored [10, 11, 12, 13] 0 4 [0] [(0, 70), (2, 72)] = [11, 72, 13] := by decide
example : rawCleanRead [1, 2, 3, 4] [5, 6] 3 2 9 = [3, 5, 6] := by decide
example : cursorGet [0, 1, 2, 3, 4, 5, 6] 3 5 = some 5 := by decide
example : pagesRead [[0, 1, 2, 3], [4, 5, 6, 7], [8, 9]] 4 2 9 = [2, 3, 4, 5, 6, 7, 8] := by decide

end AnyDB.C08
