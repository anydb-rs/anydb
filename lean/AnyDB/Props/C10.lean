import AnyDB.Lemmas.Extents

/-!
# C10 — concurrent work on distinct regions is isolated; no foreign bytes read

Model (this file, `AnyDB.Conc`): the shared layout of one database — region extents, in-flight relocation targets
(`start_to_reserved`), holes, pending holes — changed only by SECTIONS that run atomically under the layout write
lock.  The sections are the ones `Region::write_with`, `create_region_if_needed`, `Region::remove` and `flush`
execute between taking and dropping that lock; `C10_sections` (`Props/C10Pins.lean`) pins, on the call orders extracted
from the source, that every claim of space (`set_reserved`, `reserve`, `insert_region`, `move_region`) happens INSIDE the
section that established the space was free.

* `applySec_inv`, `C10_extents_disjoint`  for EVERY schedule of sections of ANY number of threads no byte of the
  file belongs to two extents — so each region's bytes are written by its own thread only (with C01's
  single-region laws this is "contents as in isolation") and C02's extent invariant holds at every quiescent point
  AND in between;
* `C10_regions_disjoint`  two different regions never share a byte;
* `C10_reader_no_foreign_partial`  a held reader's snapshot `[start, start+len)` never belongs to another region as
  long as no flush promotes pending holes while it is held (relocation of its own region, removals, creations
  and growth of neighbours included);
* `C10_reader_counterexample` (F15)  with a flush in between it does: the full reader clause is false of the model
  and of the code (known finding);
* `C10_check_sound`  the check the protocol driver runs on the real layouts (`pwDisj`: the extents are pairwise apart) does
  imply that no byte belongs to two of them.
What the model cannot exhibit: the file-length side (F14: a region placed beyond the mapped file), hole punching
against an in-flight write (F16, C12's note) — both are exercised by the directed schedules of the harness engine `c10`
(over `dsched`: one thread parked at every lock event of its operation while another runs a script on its own regions).
-/
namespace AnyDB.Conc

structure St where
  regs : List (Nat × E)        -- region id ↦ (start, reserved)
  resv : List E                -- targets of relocations in flight (`start_to_reserved`)
  holes : List E
  pending : List E             -- freed, not yet reusable (`pending_holes`)

def St.exts (s : St) : List E := s.regs.map (·.2)
def St.claimed (s : St) : List E := s.exts ++ s.resv ++ s.holes ++ s.pending

/-- no byte of the file belongs to two extents -/
def Inv (s : St) : Prop := ∀ x, cnt s.claimed x ≤ 1

/-- nothing is claimed at or beyond `e` (`Layout::len() ≤ e`) -/
def FreeFrom (s : St) (e : Nat) : Prop := ∀ x, e ≤ x → cnt s.claimed x = 0

theorem claimed_cnt (s : St) (x : Nat) :
    cnt s.claimed x = cnt s.exts x + cnt s.resv x + cnt s.holes x + cnt s.pending x := by
  simp only [St.claimed, cnt_append]

theorem free_claim (s : St) (e n x : Nat) (hi : Inv s) (hf : FreeFrom s e) : cnt s.claimed x + ind (e, n) x ≤ 1 :=
  cnt_add_ind_le_one hf hi n x

/-- `remove_or_compress_hole(h.start, n)`: the front `n` bytes leave hole `h` -/
def takeHole (holes : List E) (h : E) (n : Nat) : List E :=
  holes.erase h ++ (if n < h.2 then [(h.1 + n, h.2 - n)] else [])

theorem takeHole_cnt (holes : List E) (h : E) (n x : Nat) (hm : h ∈ holes) (hn : n ≤ h.2) :
    cnt (takeHole holes h n) x + ind (h.1, n) x = cnt holes x := by
  have := cnt_erase_ind holes h x hm
  have hs : ind h x = ind (h.1, n) x + ind (h.1 + n, h.2 - n) x := C02r.ind_adjacent h.1 n h.2 x hn
  unfold takeHole
  rw [cnt_append]
  split
  · rw [cnt_cons, cnt]
    omega
  · rw [C02r.ind_neg (h.1 + n) (h.2 - n) x (by omega)] at hs
    rw [cnt]
    omega

/-- create_region_if_needed, hole branch -/
def createInHole (s : St) (id : Nat) (h : E) (n : Nat) : St :=
  { s with regs := (id, (h.1, n)) :: s.regs, holes := takeHole s.holes h n }

theorem createInHole_inv (s : St) (id : Nat) (h : E) (n : Nat) (hi : Inv s) (hm : h ∈ s.holes) (hn : n ≤ h.2) :
    Inv (createInHole s id h n) := by
  intro x
  have := hi x
  have t := takeHole_cnt s.holes h n x hm hn
  rw [claimed_cnt] at this ⊢
  simp only [createInHole, St.exts, List.map_cons, cnt_cons] at this ⊢
  omega

/-- create_region_if_needed, end-of-file branch: `start = layout.len()` -/
def createAtEnd (s : St) (id e n : Nat) : St := { s with regs := (id, (e, n)) :: s.regs }

theorem createAtEnd_inv (s : St) (id e n : Nat) (hi : Inv s) (hf : FreeFrom s e) : Inv (createAtEnd s id e n) := by
  intro x
  have := free_claim s e n x hi hf
  rw [claimed_cnt] at this ⊢
  simp only [createAtEnd, St.exts, List.map_cons, cnt_cons] at this ⊢
  omega

/-- write_with, "extend last region": the region's `reserved` grows in place, IN THE SECTION that established
that nothing lies behind it -/
def growRegion (s : St) (r : Nat × E) (r' : Nat) : St := { s with regs := (r.1, (r.2.1, r')) :: s.regs.erase r }

theorem growLast_inv (s : St) (r : Nat × E) (r' : Nat) (hi : Inv s) (hm : r ∈ s.regs)
    (hf : FreeFrom s (r.2.1 + r.2.2)) (hr : r.2.2 ≤ r') : Inv (growRegion s r r') := by
  intro x
  have e := cnt_map_erase s.regs r x hm
  have f := free_claim s _ (r' - r.2.2) x hi hf
  -- the grown region is the old one plus a piece claimed behind it
  have sp : ind (r.2.1, r') x = ind r.2 x + ind (r.2.1 + r.2.2, r' - r.2.2) x := C02r.ind_adjacent r.2.1 r.2.2 r' x hr
  rw [claimed_cnt] at f ⊢
  simp only [growRegion, St.exts, List.map_cons, cnt_cons] at e f ⊢
  omega

/-- write_with, "expand into adjacent hole" -/
def growIntoHole (s : St) (r : Nat × E) (h : E) (added : Nat) : St :=
  { s with regs := (r.1, (r.2.1, r.2.2 + added)) :: s.regs.erase r, holes := takeHole s.holes h added }

theorem growIntoHole_inv (s : St) (r : Nat × E) (h : E) (added : Nat) (hi : Inv s) (hm : r ∈ s.regs) (hh : h ∈ s.holes)
    (hadj : h.1 = r.2.1 + r.2.2) (hn : added ≤ h.2) : Inv (growIntoHole s r h added) := by
  intro x
  have h1 := hi x
  have e := cnt_map_erase s.regs r x hm
  have t := takeHole_cnt s.holes h added x hh hn
  -- the grown region is the old one plus the front of the hole
  have sp : ind (r.2.1, r.2.2 + added) x = ind r.2 x + ind (h.1, added) x := by
    rw [hadj]
    exact ind_split r.2.1 r.2.2 added x
  rw [claimed_cnt] at h1 ⊢
  simp only [growIntoHole, St.exts, List.map_cons, cnt_cons] at h1 e t ⊢
  omega

/-- write_with, relocation, first section: the target is taken from a hole and RESERVED before the lock is dropped -/
def reserveInHole (s : St) (h : E) (n : Nat) : St := { s with resv := (h.1, n) :: s.resv, holes := takeHole s.holes h n }

theorem reserveInHole_inv (s : St) (h : E) (n : Nat) (hi : Inv s) (hm : h ∈ s.holes) (hn : n ≤ h.2) :
    Inv (reserveInHole s h n) := by
  intro x
  have := hi x
  have t := takeHole_cnt s.holes h n x hm hn
  rw [claimed_cnt] at this ⊢
  simp only [reserveInHole, St.exts, cnt_cons] at this ⊢
  omega

/-- write_with, relocation, first section when no hole fits: the target starts at `layout.len()` and is RESERVED before
the lock is dropped -/
def reserveAtEnd (s : St) (e n : Nat) : St := { s with resv := (e, n) :: s.resv }

theorem reserveAtEnd_inv (s : St) (e n : Nat) (hi : Inv s) (hf : FreeFrom s e) : Inv (reserveAtEnd s e n) := by
  intro x
  have := free_claim s e n x hi hf
  rw [claimed_cnt] at this ⊢
  simp only [reserveAtEnd, St.exts, cnt_cons] at this ⊢
  omega

/-- relocation, last section (`move_region` + `take_reserved`): the region takes its reservation, its old extent
becomes a pending hole -/
def moveRegion (s : St) (r : Nat × E) (t : E) : St :=
  { s with regs := (r.1, t) :: s.regs.erase r, resv := s.resv.erase t, pending := r.2 :: s.pending }

theorem moveRegion_inv (s : St) (r : Nat × E) (t : E) (hi : Inv s) (hm : r ∈ s.regs) (ht : t ∈ s.resv) :
    Inv (moveRegion s r t) := by
  intro x
  have h1 := hi x
  have e := cnt_map_erase s.regs r x hm
  have e2 := cnt_erase_ind s.resv t x ht
  rw [claimed_cnt] at h1 ⊢
  simp only [moveRegion, St.exts, List.map_cons, cnt_cons] at h1 e e2 ⊢
  omega

/-- `Region::remove`: the extent becomes a pending hole -/
def removeRegion (s : St) (r : Nat × E) : St := { s with regs := s.regs.erase r, pending := r.2 :: s.pending }

theorem removeRegion_inv (s : St) (r : Nat × E) (hi : Inv s) (hm : r ∈ s.regs) : Inv (removeRegion s r) := by
  intro x
  have h1 := hi x
  have e := cnt_map_erase s.regs r x hm
  rw [claimed_cnt] at h1 ⊢
  simp only [removeRegion, St.exts, cnt_cons] at h1 e ⊢
  omega

/-- `flush`: pending holes become reusable (coalescing is C02's concern: it keeps the covered bytes) -/
def promote (s : St) : St := { s with holes := s.holes ++ s.pending, pending := [] }

theorem promote_inv (s : St) (hi : Inv s) : Inv (promote s) := by
  intro x
  have h1 := hi x
  rw [claimed_cnt] at h1 ⊢
  simp only [promote, St.exts, cnt_append, cnt] at h1 ⊢
  omega

/-- a failed relocation gives its reservation back (`take_reserved` on the error path) -/
def dropReservation (s : St) (t : E) : St := { s with resv := s.resv.erase t, holes := t :: s.holes }

theorem dropReservation_inv (s : St) (t : E) (hi : Inv s) (ht : t ∈ s.resv) : Inv (dropReservation s t) := by
  intro x
  have h1 := hi x
  have e2 := cnt_erase_ind s.resv t x ht
  rw [claimed_cnt] at h1 ⊢
  simp only [dropReservation, St.exts, cnt_cons] at h1 e2 ⊢
  omega

/-- `Layout::len()`: the largest end of anything claimed -/
def endOf : List E → Nat
  | [] => 0
  | e :: t => max (e.1 + e.2) (endOf t)

theorem stop_le_endOf (l : List E) (e : E) (h : e ∈ l) : e.1 + e.2 ≤ endOf l := by
  induction l with
  | nil => cases h
  | cons a t ih =>
    rw [endOf]
    rcases List.mem_cons.mp h with rfl | h
    · exact Nat.le_max_left ..
    · exact Nat.le_trans (ih h) (Nat.le_max_right ..)

theorem cnt_zero_of_endOf (l : List E) (x : Nat) (h : endOf l ≤ x) : cnt l x = 0 :=
  C02r.cnt_zero_of_stops l x fun e he => Nat.le_trans (stop_le_endOf l e he) h

theorem freeFrom_endOf (s : St) (e : Nat) (h : endOf s.claimed ≤ e) : FreeFrom s e :=
  fun x hx => cnt_zero_of_endOf _ x (by omega)

inductive Sec
  | createInHole (id : Nat) (h : E) (n : Nat)
  | createAtEnd (id n : Nat)
  | growLast (r : Nat × E) (r' : Nat)
  | growIntoHole (r : Nat × E) (h : E) (added : Nat)
  | reserveInHole (h : E) (n : Nat)
  | reserveAtEnd (n : Nat)
  | moveRegion (r : Nat × E) (t : E)
  | removeRegion (r : Nat × E)
  | promote
  | dropReservation (t : E)
deriving Repr

/-- one section, executed atomically (it holds the layout write lock); a section whose precondition does not hold
in the state it finds is not enabled -/
def applySec (s : St) : Sec → Option St
  | .createInHole id h n => if h ∈ s.holes ∧ n ≤ h.2 then some (createInHole s id h n) else none
  | .createAtEnd id n => some (createAtEnd s id (endOf s.claimed) n)
  | .growLast r r' => if r ∈ s.regs ∧ endOf s.claimed ≤ r.2.1 + r.2.2 ∧ r.2.2 ≤ r' then some (growRegion s r r') else none
  | .growIntoHole r h added =>
    if r ∈ s.regs ∧ h ∈ s.holes ∧ h.1 = r.2.1 + r.2.2 ∧ added ≤ h.2 then some (growIntoHole s r h added) else none
  | .reserveInHole h n => if h ∈ s.holes ∧ n ≤ h.2 then some (reserveInHole s h n) else none
  | .reserveAtEnd n => some (reserveAtEnd s (endOf s.claimed) n)
  | .moveRegion r t => if r ∈ s.regs ∧ t ∈ s.resv then some (moveRegion s r t) else none
  | .removeRegion r => if r ∈ s.regs then some (removeRegion s r) else none
  | .promote => some (promote s)
  | .dropReservation t => if t ∈ s.resv then some (dropReservation s t) else none

/-- every guarded section is `if guard then some (operation) else none`: an enabled one found its guard and did its operation -/
theorem enabled_sec {c : Prop} [Decidable c] {t s' : St} (h : (if c then some t else none) = some s') : c ∧ t = s' := by
  by_cases hc : c
  · exact ⟨hc, Option.some.inj ((if_pos hc).symm.trans h)⟩
  · exact nomatch (if_neg hc).symm.trans h

theorem applySec_inv (s s' : St) (c : Sec) (hi : Inv s) (h : applySec s c = some s') : Inv s' := by
  cases c with
  | createInHole id h0 n => obtain ⟨hc, rfl⟩ := enabled_sec h; exact createInHole_inv s id h0 n hi hc.1 hc.2
  | createAtEnd id n => cases h; exact createAtEnd_inv s id _ n hi (freeFrom_endOf s _ (Nat.le_refl _))
  | growLast r r' => obtain ⟨hc, rfl⟩ := enabled_sec h; exact growLast_inv s r r' hi hc.1 (freeFrom_endOf s _ hc.2.1) hc.2.2
  | growIntoHole r h0 added =>
    obtain ⟨hc, rfl⟩ := enabled_sec h; exact growIntoHole_inv s r h0 added hi hc.1 hc.2.1 hc.2.2.1 hc.2.2.2
  | reserveInHole h0 n => obtain ⟨hc, rfl⟩ := enabled_sec h; exact reserveInHole_inv s h0 n hi hc.1 hc.2
  | reserveAtEnd n => cases h; exact reserveAtEnd_inv s _ n hi (freeFrom_endOf s _ (Nat.le_refl _))
  | moveRegion r t => obtain ⟨hc, rfl⟩ := enabled_sec h; exact moveRegion_inv s r t hi hc.1 hc.2
  | removeRegion r => obtain ⟨hc, rfl⟩ := enabled_sec h; exact removeRegion_inv s r hi hc
  | promote => cases h; exact promote_inv s hi
  | dropReservation t => obtain ⟨hc, rfl⟩ := enabled_sec h; exact dropReservation_inv s t hi hc

/-- a schedule: the sections of all threads in the order in which they got the layout lock; sections that are not
enabled when their turn comes are skipped -/
def runSecs (s : St) : List Sec → St
  | [] => s
  | c :: cs => match applySec s c with
    | some s' => runSecs s' cs
    | none => runSecs s cs

def St.empty : St := { regs := [], resv := [], holes := [], pending := [] }

theorem inv_empty : Inv St.empty := by intro x; simp [St.claimed, St.exts, St.empty, cnt]

theorem C10_extents_disjoint_from (s : St) (cs : List Sec) (hs : Inv s) : Inv (runSecs s cs) := by
  induction cs generalizing s with
  | nil => exact hs
  | cons c t ih =>
    simp only [runSecs]
    cases hc : applySec s c with
    | none => exact ih s hs
    | some s' => exact ih s' (applySec_inv s s' c hs hc)

theorem C10_extents_disjoint (cs : List Sec) : Inv (runSecs St.empty cs) :=
  C10_extents_disjoint_from St.empty cs inv_empty

theorem C10_regions_disjoint (s : St) (hi : Inv s) (a b : Nat × E) (ha : a ∈ s.regs) (hb : b ∈ s.regs.erase a) (x : Nat) :
    ind a.2 x + ind b.2 x ≤ 1 := by
  have := hi x
  have e1 := cnt_map_erase s.regs a x ha
  have e2 := cnt_map_erase (s.regs.erase a) b x hb
  rw [claimed_cnt] at this
  simp only [St.exts] at this
  omega

/-- every byte of the reader's snapshot `[st, st+len)` of region `id` still belongs to that region, or is a pending
hole (the region moved away or was removed after the reader was created) -/
def RdOK (s : St) (id st len : Nat) : Prop :=
  ∀ x, st ≤ x → x < st + len → (∃ r ∈ s.regs, r.1 = id ∧ ind r.2 x = 1) ∨ 1 ≤ cnt s.pending x

theorem rdOK_create (s : St) (r : Nat × E) (len : Nat) (hm : r ∈ s.regs) (hl : len ≤ r.2.2) : RdOK s r.1 r.2.1 len := by
  intro x h1 h2
  left; exact ⟨r, hm, rfl, by simp only [ind]; split <;> omega⟩

theorem rdOK_step (s s' : St) (c : Sec) (id st len : Nat) (h : RdOK s id st len) (hc : applySec s c = some s')
    (hnp : c ≠ .promote) : RdOK s' id st len := by
  intro x h1 h2
  have hx := h x h1 h2
  cases c with
  | createInHole i h0 n =>
    obtain ⟨_, rfl⟩ := enabled_sec hc
    exact hx.imp_left fun ⟨r, hr, hid, hin⟩ => ⟨r, List.mem_cons_of_mem _ hr, hid, hin⟩
  | createAtEnd i n =>
    cases hc
    exact hx.imp_left fun ⟨r, hr, hid, hin⟩ => ⟨r, List.mem_cons_of_mem _ hr, hid, hin⟩
  | growLast r0 r' =>
    obtain ⟨hcond, rfl⟩ := enabled_sec hc
    rcases hx with ⟨r, hr, hid, hin⟩ | hp
    · by_cases he : r = r0
      · subst he
        have hg : r.2.2 ≤ r' := hcond.2.2
        left; refine ⟨(r.1, (r.2.1, r')), List.mem_cons_self .., hid, ?_⟩
        simp only [ind] at hin ⊢; split at hin <;> split <;> omega
      · left; exact ⟨r, List.mem_cons_of_mem _ ((List.mem_erase_of_ne he).mpr hr), hid, hin⟩
    · right; exact hp
  | growIntoHole r0 h0 added =>
    obtain ⟨_, rfl⟩ := enabled_sec hc
    rcases hx with ⟨r, hr, hid, hin⟩ | hp
    · by_cases he : r = r0
      · subst he
        left; refine ⟨(r.1, (r.2.1, r.2.2 + added)), List.mem_cons_self .., hid, ?_⟩
        simp only [ind] at hin ⊢; split at hin <;> split <;> omega
      · left; exact ⟨r, List.mem_cons_of_mem _ ((List.mem_erase_of_ne he).mpr hr), hid, hin⟩
    · right; exact hp
  | reserveInHole h0 n => obtain ⟨_, rfl⟩ := enabled_sec hc; exact hx
  | reserveAtEnd n => cases hc; exact hx
  | moveRegion r0 t =>
    obtain ⟨_, rfl⟩ := enabled_sec hc
    rcases hx with ⟨r, hr, hid, hin⟩ | hp
    · by_cases he : r = r0
      · subst he; right; simp only [moveRegion, cnt_cons]; omega
      · left; exact ⟨r, List.mem_cons_of_mem _ ((List.mem_erase_of_ne he).mpr hr), hid, hin⟩
    · right; simp only [moveRegion, cnt_cons]; omega
  | removeRegion r0 =>
    obtain ⟨_, rfl⟩ := enabled_sec hc
    rcases hx with ⟨r, hr, hid, hin⟩ | hp
    · by_cases he : r = r0
      · subst he; right; simp only [removeRegion, cnt_cons]; omega
      · left; exact ⟨r, (List.mem_erase_of_ne he).mpr hr, hid, hin⟩
    · right; simp only [removeRegion, cnt_cons]; omega
  | promote => exact absurd rfl hnp
  | dropReservation t => obtain ⟨_, rfl⟩ := enabled_sec hc; exact hx

/-- schedules without a flush (`∀ (_ : c = Sec.promote), False` is `c ≠ .promote` by definition: `rdOK_run` hands it to
`rdOK_step` as it is) -/
def NoPromote : List Sec → Prop
  | [] => True
  | c :: cs => (∀ (_ : c = Sec.promote), False) ∧ NoPromote cs

theorem rdOK_run (s : St) (cs : List Sec) (id st len : Nat) (h : RdOK s id st len) (hn : NoPromote cs) :
    RdOK (runSecs s cs) id st len := by
  induction cs generalizing s with
  | nil => exact h
  | cons c t ih =>
    simp only [runSecs]
    cases hc : applySec s c with
    | none => exact ih s h hn.2
    | some s' => exact ih s' (rdOK_step s s' c id st len h hc hn.1) hn.2

theorem C10_reader_no_foreign_partial (s : St) (cs : List Sec) (r : Nat × E) (len : Nat) (hi : Inv s) (hm : r ∈ s.regs)
    (hl : len ≤ r.2.2) (hn : NoPromote cs) :
    ∀ x, r.2.1 ≤ x → x < r.2.1 + len → ∀ o ∈ (runSecs s cs).regs, o.1 ≠ r.1 → ind o.2 x = 0 := by
  intro x h1 h2 o ho hne
  have hinv : Inv (runSecs s cs) := C10_extents_disjoint_from s cs hi
  have hrd := rdOK_run s cs r.1 r.2.1 len (rdOK_create s r len hm hl) hn x h1 h2
  have hc := hinv x
  rw [claimed_cnt] at hc
  have eo := cnt_map_erase (runSecs s cs).regs o x ho
  simp only [St.exts] at hc
  rcases hrd with ⟨q, hq, hqid, hqin⟩ | hp
  · have hqo : q ≠ o := fun e => hne (by rw [← e]; exact hqid)
    have hq2 : q ∈ (runSecs s cs).regs.erase o := (List.mem_erase_of_ne hqo).mpr hq
    have eq := cnt_map_erase ((runSecs s cs).regs.erase o) q x hq2
    omega
  · omega

/-- F15: region 1 at [0,4096) relocates to the end, flush, region 2 is created in the hole — where a reader of region 1
held since before the relocation still reads -/
theorem C10_reader_counterexample :
    let s0 : St := { regs := [(1, (0, 4096))], resv := [], holes := [], pending := [] }
    let s := runSecs s0 [.reserveAtEnd 8192, .moveRegion (1, (0, 4096)) (4096, 8192), .promote, .createInHole 2 (0, 4096) 4096]
    ∃ o ∈ s.regs, o.1 ≠ 1 ∧ ind o.2 0 = 1 := by
  decide

-- non-vacuity of the partial theorem: the same schedule without the flush leaves byte 0 to nobody else (`(0, 4096)` is then
-- pending, not a hole: the `createInHole` step is not enabled and is skipped; `createAtEnd` places region 2 instead)
example :
    let s0 : St := { regs := [(1, (0, 4096))], resv := [], holes := [], pending := [] }
    let s := runSecs s0 [.reserveAtEnd 8192, .moveRegion (1, (0, 4096)) (4096, 8192), .createInHole 2 (0, 4096) 4096, .createAtEnd 2 4096]
    s.regs = [(2, (12288, 4096)), (1, (4096, 8192))] ∧ s.pending = [(0, 4096)] := by
  decide

/-- the check the protocol driver runs on real layouts -/
def pwDisj : List E → Bool
  | [] => true
  | e :: t => t.all (fun f => decide (e.1 + e.2 ≤ f.1 ∨ f.1 + f.2 ≤ e.1)) && pwDisj t

theorem cnt_zero_of_all_disj (e : E) (t : List E) (x : Nat)
    (h : t.all (fun f => decide (e.1 + e.2 ≤ f.1 ∨ f.1 + f.2 ≤ e.1)) = true) (hx : e.1 ≤ x ∧ x < e.1 + e.2) : cnt t x = 0 := by
  induction t with
  | nil => rfl
  | cons f r ih =>
    simp only [List.all_cons, Bool.and_eq_true, decide_eq_true_eq] at h
    simp only [cnt]
    have := ih h.2
    split <;> omega

/-- what the driver answers `ok` for really is a state in which no byte belongs to two extents -/
theorem C10_check_sound (l : List E) (h : pwDisj l = true) : ∀ x, cnt l x ≤ 1 := by
  induction l with
  | nil => intro x; simp [cnt]
  | cons e t ih =>
    intro x
    simp only [pwDisj, Bool.and_eq_true] at h
    simp only [cnt]
    split
    · rename_i hx
      have := cnt_zero_of_all_disj e t x h.1 hx
      omega
    · have := ih h.2 x; omega

end AnyDB.Conc
