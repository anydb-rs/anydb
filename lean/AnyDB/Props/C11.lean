import AnyDB.Model.LockOrder

/-!
# C11 — no interleaving of library calls from different threads can deadlock

Model: `AnyDB/Lemmas/Locks.lean` — threads with a stack of held locks and a program of
acquisitions/releases; read-write locks are WRITER-PREFERRING (a reader also waits for any thread whose
next action is a write acquisition of the same lock); `enabled`, `unfinished`, the discipline
`OK held prog` (every acquisition ranks strictly above everything held; only held locks are released;
a finished thread holds nothing).

* `C11_progress`       — in every well-formed state in which some thread is unfinished, some thread is
                          enabled: no set of threads blocks forever, for ANY number of threads, programs
                          and schedules (`Locks.progress`, proved first below: among the locks requested take the
                          highest; nobody can hold it, so its requester is enabled);
* `C11_step_preserves` — every step of every thread preserves well-formedness, so the statement holds in
                          every reachable state (`C11_reachable_progress`);
* `C11_check_sound`    — `okB held prog = true ↔ OK held prog`: `okB` (this file) decides the discipline;
* `C11_accepted_traces_wf` — programs that each pass `okB []` form, with nothing held, a well-formed system;
* `C11_rank_strict`    — the rank table is injective on the classes it lists (a linear order).

The theorem turns "for all combinations of operations, allocator states and schedules" into a
per-operation, single-thread obligation: every acquisition trace of every public operation respects the
order.  The sched engine records those traces on the real code (guarded lock shim) for 48 operation ×
state scenarios and the driver checks each — with `LockOrder.checkFrom` (`Driver/LocksProto.lean`), which walks the
recorded classes and instances, not with `okB`.  That `checkFrom [] tr = .ok` gives `OK [] (progOf tr)` is NOT a theorem:
the step from an accepted trace to a program the progress theorem covers rests on reading the two definitions side
by side.  Known finding F13: the read paths of compressed vectors take the page-index lock while holding the mapping /
metadata lock, whereas `write()` holds the page-index lock across `Pages::flush`; `rank` is the order of all other
recorded traces, and the check reports the two reader edges (the last `example` shows one).
-/
namespace AnyDB.Locks

/-- the lock a thread is waiting for -/
def req (t : T) : Option Nat :=
  match t.prog with
  | Act.acq l _ :: _ => some l
  | _ => none

theorem holder_unfinished {t : T} (h : OK t.held t.prog) {l : Nat} (hl : t.holds l) : t.prog ≠ [] := by
  intro e
  rw [e] at h
  simp [OK] at h
  obtain ⟨m, hm⟩ := hl
  rw [h] at hm; simp at hm

theorem exists_max_mem (l : List Nat) (h : l ≠ []) : ∃ a ∈ l, ∀ b ∈ l, b ≤ a := by
  cases hm : l.max? with
  | none => exact absurd (List.max?_eq_none_iff.mp hm) h
  | some a => exact ⟨a, List.max?_eq_some_iff.mp hm⟩

theorem req_of_blocked {s : Sys} {i : Nat} {t : T} (hi : s[i]? = some t) (hp : t.prog ≠ []) (hne : ¬ enabled s i) :
    ∃ l m rest, t.prog = Act.acq l m :: rest := by
  unfold enabled at hne
  rw [hi] at hne
  simp only at hne
  match hprog : t.prog with
  | [] => exact absurd hprog hp
  | Act.rel l :: rest =>
    rw [hprog] at hne
    exact absurd trivial hne
  | Act.acq l m :: rest => exact ⟨l, m, rest, rfl⟩

theorem progress (s : Sys) (hwf : WF s) (hu : ∃ i, unfinished s i) : ∃ i, enabled s i := by
  apply Classical.byContradiction
  intro hne
  have hne : ∀ i : Nat, ¬ enabled s i := fun i hi => hne ⟨i, hi⟩
  -- among the requested locks take the highest, `l`, requested by thread `i`
  obtain ⟨i0, t0, hi0, hp0⟩ := hu
  obtain ⟨l0, m0, r0, hq0⟩ := req_of_blocked hi0 hp0 (hne i0)
  have hmem0 : l0 ∈ s.filterMap req := List.mem_filterMap.2 ⟨t0, List.mem_of_getElem? hi0, by simp [req, hq0]⟩
  obtain ⟨l, hl, hmaxl⟩ := exists_max_mem (s.filterMap req) (List.ne_nil_of_mem hmem0)
  obtain ⟨t, ht, hr⟩ := List.mem_filterMap.1 hl
  obtain ⟨i, hi⟩ := List.getElem?_of_mem ht
  -- nobody can hold `l`: a holder is unfinished, hence blocked on a lock above all it holds, so above `l`
  have holder_contra : ∀ (j : Nat) (u : T), s[j]? = some u → u.holds l → False := by
    intro j u hj hh
    have hok := hwf j u hj
    obtain ⟨x, m, rest, hq⟩ := req_of_blocked hj (holder_unfinished hok hh) (hne j)
    have hle := hmaxl x (List.mem_filterMap.2 ⟨u, List.mem_of_getElem? hj, by simp [req, hq]⟩)
    rw [hq] at hok
    obtain ⟨m', hm'⟩ := hh
    have := hok.1 (l, m') hm'
    omega
  -- so thread `i` is enabled after all
  have hdis := hne i
  unfold enabled at hdis
  rw [hi] at hdis
  simp only at hdis
  match hprog : t.prog with
  | [] => simp [req, hprog] at hr
  | Act.rel x :: rest => simp [req, hprog] at hr
  | Act.acq x m :: rest =>
    simp [req, hprog] at hr
    subst hr
    rw [hprog] at hdis
    cases m with
    | W => exact hdis holder_contra
    | R =>
      refine hdis ⟨fun j u hj hh => holder_contra j u hj ⟨Mode.W, hh⟩, fun j u _ hj rest' hq => ?_⟩
      -- a queued writer on `x` is blocked too, so someone holds `x`
      have hdu := hne j
      unfold enabled at hdu
      rw [hj] at hdu
      simp only [hq] at hdu
      exact hdu holder_contra

end AnyDB.Locks

namespace AnyDB.C11
open AnyDB Locks LockOrder

theorem C11_progress (s : Sys) (hwf : WF s) (hu : ∃ i, unfinished s i) : ∃ i, enabled s i :=
  progress s hwf hu

/-- the thread performs its next action, enabled or not -/
def stepThread (t : T) : T :=
  match t.prog with
  | [] => t
  | Act.acq l m :: rest => { held := (l, m) :: t.held, prog := rest }
  | Act.rel l :: rest => { held := t.held.filter (·.1 != l), prog := rest }

def step (s : Sys) (i : Nat) : Sys :=
  match s[i]? with
  | some t => s.set i (stepThread t)
  | none => s

theorem stepThread_ok (t : T) (h : OK t.held t.prog) : OK (stepThread t).held (stepThread t).prog := by
  unfold stepThread
  cases hp : t.prog with
  | nil => simpa [hp] using h
  | cons a rest =>
    rw [hp] at h
    cases a with
    | acq l m => exact h.2
    | rel l => exact h.2

theorem C11_step_preserves (s : Sys) (i : Nat) (hwf : WF s) : WF (step s i) := by
  unfold step
  cases hi : s[i]? with
  | none => exact hwf
  | some t =>
    intro j u hj
    by_cases hji : j = i
    · subst hji
      rw [List.getElem?_set_self (List.getElem?_eq_some_iff.mp hi).1] at hj
      cases hj
      exact stepThread_ok t (hwf j t hi)
    · rw [List.getElem?_set_ne (by omega)] at hj
      exact hwf j u hj

/-- states reachable by any schedule — and more: `step` never consults `enabled`.  Harmless, since every step preserves `WF`. -/
inductive Reachable (s0 : Sys) : Sys → Prop
  | init : Reachable s0 s0
  | step (s : Sys) (i : Nat) : Reachable s0 s → Reachable s0 (step s i)

theorem C11_reachable_progress (s0 s : Sys) (h0 : WF s0) (hr : Reachable s0 s) (hu : ∃ i, unfinished s i) :
    ∃ i, enabled s i := by
  have hwf : WF s := by
    clear hu
    induction hr with
    | init => exact h0
    | step s' i _ ih => exact C11_step_preserves s' i ih
  exact progress s hwf hu

/-- the executable discipline check -/
def okB : List (Nat × Mode) → List Act → Bool
  | held, [] => held.isEmpty
  | held, Act.acq l m :: rest => held.all (fun h => decide (h.1 < l)) && okB ((l, m) :: held) rest
  | held, Act.rel l :: rest => held.any (fun h => h.1 == l) && okB (held.filter (·.1 != l)) rest

theorem C11_check_sound (held : List (Nat × Mode)) (prog : List Act) : okB held prog = true ↔ OK held prog := by
  induction prog generalizing held with
  | nil => simp [okB, OK, List.isEmpty_iff]
  | cons a rest ih =>
    cases a with
    | acq l m =>
      simp only [okB, OK, Bool.and_eq_true, List.all_eq_true, decide_eq_true_eq, ih]
    | rel l =>
      simp only [okB, OK, Bool.and_eq_true, List.any_eq_true, ih]
      constructor
      · rintro ⟨⟨h, hm, he⟩, hr⟩
        refine ⟨⟨h.2, ?_⟩, hr⟩
        have : h.1 = l := by simpa using he
        rw [← this]; exact hm
      · rintro ⟨⟨m, hm⟩, hr⟩
        exact ⟨⟨(l, m), hm, by simp⟩, hr⟩

theorem C11_accepted_traces_wf (progs : List (List Act)) (h : ∀ p ∈ progs, okB [] p = true) :
    WF (progs.map (fun p => ({ held := [], prog := p } : T))) := by
  intro i t hi
  rw [List.getElem?_map, Option.map_eq_some_iff] at hi
  obtain ⟨p, hp, rfl⟩ := hi
  exact (C11_check_sound [] p).mp (h p (List.mem_of_getElem? hp))

theorem C11_rank_strict :
    (["ExitLock", "BgTasks", "BgSync", "HeaderInner", "Pages", "Layout", "Regions", "MmapMut", "File", "RegionMetadata", "DirtyBounds"].map rank)
      = [some 0, some 1, some 2, some 3, some 4, some 5, some 6, some 7, some 8, some 9, some 10] := by
  decide

/-- non-vacuity: the recorded trace of a region write that extends the last region respects the order;
    the F13 reader edge does not -/
example : respectsOrder [.acq "RegionMetadata" 0 false, .rel "RegionMetadata" 0, .acq "Layout" 1 true, .acq "RegionMetadata" 0 true,
    .rel "RegionMetadata" 0, .rel "Layout" 1, .acq "MmapMut" 2 false, .rel "MmapMut" 2] = true := by decide
example : checkFrom [] [.acq "MmapMut" 0 false, .acq "Pages" 1 false] = .violation "MmapMut" "Pages" := by decide

end AnyDB.C11
