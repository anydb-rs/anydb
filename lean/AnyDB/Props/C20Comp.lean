import AnyDB.Props.C03Comp
/-!
# C20 for compressed vectors in every reachable state

`C20_comp_history`: after EVERY history of pushes, truncations and writes on a compressed vector (any compressor answers)
every page slice `[start, stop)` — the only bytes of the data region a compressed read fetches — lies behind the header and
inside the region's current length, and reading the whole vector (`items`) never leaves the pages.  The hypothesis of
`C20_pages` (gap-free chain from the header, inside the data region) is the invariant `CSync`, which `C03Comp` proves
of every reachable state.
-/
namespace AnyDB.C20
open VecM VecM.V C03c C07

/-- in a gap-free chain that starts at the header and ends at the end of the data region every page slice
`[start, stop)` — the only bytes a compressed read fetches — lies inside the region's valid data -/
theorem C20_pages (pages : List Page) (dataLen : Nat) (h : Chained HEADER pages) (hd : dataLen = nextStart pages) :
    ∀ p ∈ pages, HEADER ≤ p.start ∧ p.stop ≤ dataLen := by
  intro p hp
  obtain ⟨k, hg⟩ := List.getElem?_of_mem hp
  rw [hd, nextStart_eq_chainEnd, start_at _ _ _ _ h hg]
  exact ⟨chainEnd_ge _ _ (chained_take _ _ k h), stop_le _ _ _ _ h hg⟩

theorem C20_comp_history (es : List CEdit) (sz keep : Nat) (h1 : 0 < sz) (h2 : sz ≤ MAX_PAGE) :
    (∀ p ∈ (runC (V.init .comp sz keep) es).1.pages, HEADER ≤ p.start ∧ p.stop ≤ (runC (V.init .comp sz keep) es).1.dataLen) ∧
    (runC (V.init .comp sz keep) es).1.items.2 = false := by
  obtain ⟨_, _, r3, r4⟩ := run_init es sz keep h1 h2
  refine ⟨?_, by rw [items_eq_shown _ r3]⟩
  intro p hp
  have hb := C20_pages _ _ r4.chain rfl p hp
  exact ⟨hb.1, Nat.le_trans hb.2 r4.data⟩

end AnyDB.C20
