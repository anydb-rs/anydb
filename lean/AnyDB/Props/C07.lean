import AnyDB.Lemmas.VecOps

/-!
# C07 — compressed storage is lossless and its page index stays well-formed

Model: `writeComp` of `AnyDB/Model/Vec.lean` (three regimes: fast raw append, partial-page
re-encode, fresh pages), `encChunks`, `buildPages`, `splitChunks`, `pagesFlush`.

Proved here for every page list, every chunking and every compressor answer (no bound):

* `C07_split_concat`     — cutting the values into pages loses and reorders nothing;
* `C07_split_sizes`,
  `C07_split_full`       — no page is empty or over-full, and every page but the last is full;
* `C07_enc_flags`        — a page is stored raw exactly when it is not full, a raw page occupies
                            `values · size` bytes, and the encoded contents are the chunks, in order;
* `C07_build_chained`    — the new pages form a gap-free run starting where the kept pages end;
* `C07_write_chained`    — hence the page list after the general `write()` path is a gap-free run
                            from the header, if it was one before (truncation point + new pages);
* `C07_fast_chained`     — the same for the fast raw-append path;
* `C07_flush_sync`       — after `Pages::flush` the page-index region equals the in-memory index,
                            provided the unflushed suffix starts at `change_at`;
* `C07_lossless_pages`   — decoding the pages (`pagesValues`) after the general path returns the
                            kept pages' values followed by exactly the values written.

The compressor itself (pco / lz4 / zstd round trip) is assumed, sampled by the correspondence on
extreme integers and float bit patterns; its output size is an input of the model.
-/
namespace AnyDB.C07
open VecM VecM.V

/-- gap-free run of pages starting at `x` -/
def Chained : Nat → List Page → Prop
  | _, [] => True
  | x, p :: t => p.start = x ∧ Chained p.stop t

/-- where a run that starts at `x` ends -/
def chainEnd : Nat → List Page → Nat
  | x, [] => x
  | _, p :: t => chainEnd p.stop t

theorem chained_append (x : Nat) (a b : List Page) (ha : Chained x a) (hb : Chained (chainEnd x a) b) :
    Chained x (a ++ b) := by
  induction a generalizing x with
  | nil => exact hb
  | cons p t ih => exact ⟨ha.1, ih _ ha.2 hb⟩

theorem chained_take (x : Nat) (l : List Page) (n : Nat) (h : Chained x l) : Chained x (l.take n) := by
  induction l generalizing x n with
  | nil => simp [Chained]
  | cons p t ih =>
    cases n with
    | zero => simp [Chained]
    | succ n => simp only [List.take_succ_cons, Chained] at h ⊢; exact ⟨h.1, ih _ _ h.2⟩

theorem nextStart_eq_chainEnd (l : List Page) : nextStart l = chainEnd HEADER l := by
  unfold nextStart
  induction l with
  | nil => rfl
  | cons p t ih =>
    cases t with
    | nil => rfl
    | cons q r => rw [List.getLast?_cons_cons, ih]; rfl

theorem start_at (x : Nat) (l : List Page) (k : Nat) (p : Page) (h : Chained x l) (hk : l[k]? = some p) :
    p.start = chainEnd x (l.take k) := by
  induction l generalizing x k with
  | nil => simp at hk
  | cons a t ih =>
    cases k with
    | zero => simp at hk; subst hk; simpa [chainEnd] using h.1
    | succ n => exact ih _ _ h.2 hk

theorem chainEnd_ge (x : Nat) (l : List Page) (h : Chained x l) : x ≤ chainEnd x l := by
  induction l generalizing x with
  | nil => exact Nat.le_refl _
  | cons p t ih =>
    have := ih p.stop h.2
    simp only [chainEnd]
    unfold Page.stop at this ⊢
    have := h.1; omega

theorem chainEnd_append (x : Nat) (a b : List Page) : chainEnd x (a ++ b) = chainEnd (chainEnd x a) b := by
  induction a generalizing x with
  | nil => rfl
  | cons p t ih => simp only [List.cons_append, chainEnd]; exact ih _

theorem stop_le (x : Nat) (l : List Page) (k : Nat) (p : Page) (h : Chained x l) (hk : l[k]? = some p) : p.stop ≤ chainEnd x l := by
  induction l generalizing x k with
  | nil => simp at hk
  | cons a t ih =>
    cases k with
    | zero => simp at hk; subst hk; simp only [chainEnd]; exact chainEnd_ge _ _ h.2
    | succ n => exact ih _ _ h.2 hk

theorem C07_build_chained (x : Nat) (enc : List (Nat × Nat × Bool × List Nat)) :
    Chained x (buildPages x enc) := by
  induction enc generalizing x with
  | nil => simp [buildPages, Chained]
  | cons e t ih => simp only [buildPages, Chained, Page.stop, true_and]; exact ih _

theorem foldl_add_init (l : List Nat) (a : Nat) : l.foldl (· + ·) a = a + l.foldl (· + ·) 0 := by
  induction l generalizing a with
  | nil => simp
  | cons x t ih => simp only [List.foldl_cons]; rw [ih, ih (0 + x)]; omega

theorem build_end (x : Nat) (enc : List (Nat × Nat × Bool × List Nat)) :
    chainEnd x (buildPages x enc) = x + (enc.map (·.1)).foldl (· + ·) 0 := by
  induction enc generalizing x with
  | nil => simp [buildPages, chainEnd]
  | cons e t ih =>
    simp only [buildPages, chainEnd, Page.stop, List.map_cons, List.foldl_cons]
    rw [ih, foldl_add_init _ (0 + e.1)]; omega

/-- the page list after the general path of `write()`: kept prefix + freshly laid out pages -/
theorem C07_write_chained (pages : List Page) (spi : Nat) (enc : List (Nat × Nat × Bool × List Nat))
    (h : Chained HEADER pages) :
    Chained HEADER (pages.take spi ++ buildPages (nextStart (pages.take spi)) enc) := by
  apply chained_append _ _ _ (chained_take _ _ _ h)
  rw [nextStart_eq_chainEnd]
  exact C07_build_chained _ _

/-- the fast path replaces the last (raw, partial) page by a longer one with the same start -/
theorem C07_fast_chained (pages : List Page) (spi : Nat) (page np : Page)
    (h : Chained HEADER pages) (hp : pages[spi]? = some page) (hs : np.start = page.start) :
    Chained HEADER (pages.take spi ++ [np]) := by
  apply chained_append _ _ _ (chained_take _ _ _ h)
  simp only [Chained, and_true]
  rw [hs]
  exact start_at _ _ _ _ h hp

theorem C07_split_concat (fuel n : Nat) (l : List Nat) (hn : 0 < n) (hf : l.length < fuel) :
    (splitChunks fuel n l).flatten = l := by
  induction fuel, n, l using splitChunks.induct with
  | case1 => omega
  | case2 => omega
  | case3 fuel n l hn0 he => rw [splitChunks.eq_3 _ _ _ hn0, if_pos he, List.isEmpty_iff.mp he]; rfl
  | case4 fuel n l hn0 he ih =>
    have hl : 0 < l.length := List.length_pos_iff.mpr (by simpa using he)
    rw [splitChunks.eq_3 _ _ _ hn0, if_neg he, List.flatten_cons, ih hn (by rw [List.length_drop]; omega), List.take_append_drop]

theorem C07_split_sizes (fuel n : Nat) (l : List Nat) (hn : 0 < n) :
    ∀ ch ∈ splitChunks fuel n l, 0 < ch.length ∧ ch.length ≤ n := by
  induction fuel, n, l using splitChunks.induct with
  | case1 => intro ch h; simp [splitChunks] at h
  | case2 => omega
  | case3 fuel n l hn0 he => intro ch h; simp [splitChunks, he] at h
  | case4 fuel n l hn0 he ih =>
    intro ch h
    rw [splitChunks.eq_3 _ _ _ hn0, if_neg he] at h
    rcases List.mem_cons.mp h with rfl | h
    · have hl : 0 < l.length := List.length_pos_iff.mpr (by simpa using he)
      rw [List.length_take]; omega
    · exact ih hn ch h

/-- what `values.chunks(PER_PAGE)` yields (`split_wf`): every chunk but the last holds exactly `pp` values, the last at most `pp` -/
def ChunksWF (pp : Nat) : List (List Nat) → Prop
  | [] => True
  | [c] => c.length ≤ pp
  | c :: d :: t => c.length = pp ∧ ChunksWF pp (d :: t)

theorem split_nil_of_empty (fuel n : Nat) (l : List Nat) (h : l = []) : splitChunks fuel n l = [] := by
  subst h
  cases fuel with
  | zero => simp [splitChunks]
  | succ f => cases n <;> simp [splitChunks]

theorem split_wf (fuel n : Nat) (l : List Nat) (hn : 0 < n) : ChunksWF n (splitChunks fuel n l) := by
  induction fuel, n, l using splitChunks.induct with
  | case1 => rw [splitChunks]; trivial
  | case2 => omega
  | case3 fuel n l hn0 he => rw [splitChunks.eq_3 _ _ _ hn0, if_pos he]; trivial
  | case4 fuel n l hn0 he ih =>
    have iht := ih hn
    rw [splitChunks.eq_3 _ _ _ hn0, if_neg he]
    cases hr : splitChunks fuel n (l.drop n) with
    | nil => exact List.length_take_le ..
    | cons d t =>
      rw [hr] at iht
      refine ⟨?_, iht⟩
      -- a chunk follows, so more than `n` values were left
      have hne : l.drop n ≠ [] := fun hd => by rw [split_nil_of_empty fuel n _ hd] at hr; cases hr
      rw [List.length_take]
      exact Nat.min_eq_left (Nat.le_of_lt (Nat.lt_of_not_le (fun hle => hne (List.drop_eq_nil_of_le hle))))

theorem chunksWF_full (pp : Nat) (l : List (List Nat)) (h : ChunksWF pp l) :
    ∀ i, i + 1 < l.length → (l[i]?.map List.length) = some pp := by
  induction l with
  | nil => intro i hi; exact absurd hi (Nat.not_lt_zero _)
  | cons c t ih =>
    cases t with
    | nil => intro i hi; exact absurd hi (by simp)
    | cons d u =>
      intro i hi
      cases i with
      | zero => rw [List.getElem?_cons_zero, Option.map_some, h.1]
      | succ j => exact ih h.2 j (by simpa using hi)

theorem C07_split_full (fuel n : Nat) (l : List Nat) (hn : 0 < n) :
    ∀ (i : Nat), i + 1 < (splitChunks fuel n l).length → ((splitChunks fuel n l)[i]?.map List.length) = some n :=
  chunksWF_full n _ (split_wf fuel n l hn)

theorem encChunks_cons (pp sz : Nat) (ch : List Nat) (t : List (List Nat)) (cs : List Nat) :
    ∃ b cs', encChunks pp sz (ch :: t) cs = (b, ch.length, decide (ch.length ≠ pp), ch) :: encChunks pp sz t cs' ∧
      (ch.length ≠ pp → b = ch.length * sz) := by
  by_cases hf : ch.length = pp
  · cases cs with
    | nil => exact ⟨0, [], by simp [encChunks, hf], fun h => absurd hf h⟩
    | cons c cs' => exact ⟨c, cs', by simp [encChunks, hf], fun h => absurd hf h⟩
  · exact ⟨_, cs, by simp [encChunks, hf], fun _ => rfl⟩

theorem C07_enc_flags (pp sz : Nat) (chunks : List (List Nat)) (cs : List Nat) :
    (∀ e ∈ encChunks pp sz chunks cs, (e.2.2.1 = true ↔ e.2.1 ≠ pp) ∧ (e.2.2.1 = true → e.1 = e.2.1 * sz) ∧ e.2.1 = e.2.2.2.length) ∧
    (encChunks pp sz chunks cs).map (·.2.2.2) = chunks := by
  induction chunks generalizing cs with
  | nil => simp [encChunks]
  | cons ch t ih =>
    obtain ⟨b, cs', e, hb⟩ := encChunks_cons pp sz ch t cs
    rw [e]
    refine ⟨?_, by rw [List.map_cons, (ih cs').2]⟩
    intro x hx
    rcases List.mem_cons.mp hx with rfl | hx
    · exact ⟨decide_eq_true_iff, fun h => hb (of_decide_eq_true h), rfl⟩
    · exact (ih cs').1 x hx

theorem pagesValues_build (x : Nat) (enc : List (Nat × Nat × Bool × List Nat)) :
    pagesValues (buildPages x enc) = (enc.map (·.2.2.2)).flatten := by
  induction enc generalizing x with
  | nil => rfl
  | cons e t ih => rw [buildPages, C03c.pv_cons, ih, List.map_cons, List.flatten_cons]

theorem build_values (x pp sz : Nat) (values cs : List Nat) (hpp : 0 < pp) :
    pagesValues (buildPages x (encChunks pp sz (splitChunks (values.length + 1) pp values) cs)) = values := by
  rw [pagesValues_build, (C07_enc_flags pp sz _ cs).2, C07_split_concat _ _ _ hpp (by omega)]

theorem C07_lossless_pages (kept : List Page) (pp sz : Nat) (values cs : List Nat) (hpp : 0 < pp) :
    pagesValues (kept ++ buildPages (nextStart kept) (encChunks pp sz (splitChunks (values.length + 1) pp values) cs))
      = pagesValues kept ++ values := by
  rw [C03c.pv_append, build_values _ _ _ _ _ hpp]

theorem C07_flush_sync (s : V) (c : Nat) (hc : s.changeAt = some c) (hle : c ≤ s.pagesDisk.length)
    (hpre : s.pagesDisk.take c = (s.pages.take c).map Page.entry) :
    (s.pagesFlush).2 = true ∧ (s.pagesFlush).1.pagesDisk = s.pages.map Page.entry ∧ (s.pagesFlush).1.changeAt = none := by
  rw [pagesFlush_some s c hc hle]
  refine ⟨rfl, ?_, rfl⟩
  show s.pagesDisk.take c ++ (s.pages.drop c).map Page.entry = _
  rw [hpre, ← List.map_append, List.take_append_drop]

/-- non-vacuity: three pages of capacity 4 from 9 values; the last one raw -/
example : (encChunks 4 8 (splitChunks 10 4 [1,2,3,4,5,6,7,8,9]) [17, 19]).map (fun e => (e.1, e.2.1, e.2.2.1)) =
    [(17, 4, false), (19, 4, false), (8, 1, true)] := by decide
example : Chained HEADER (buildPages HEADER (encChunks 4 8 (splitChunks 10 4 [1,2,3,4,5,6,7,8,9]) [17, 19])) :=
  C07_build_chained _ _

end AnyDB.C07
