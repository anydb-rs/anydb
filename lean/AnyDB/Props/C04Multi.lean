import AnyDB.Props.C04Raw
/-!
# C04 — any number of undos in a row (raw formats)

A committed state is described logically by a snapshot (`Snap`, Props/C04Raw.lean): stamp, stored length, deleted slots and
the value of every stored slot (deleted or not).  `Shows r c`: the physical state `r` — whatever is in its overlay and in the
region — presents snapshot `c`.  `undo_shows`: undoing a record that is faithful for the step `c0 → c` on ANY state that
shows `c` succeeds and gives a state that shows `c0` (from `undo_slots`, the single step that `C04_commit_rollback_raw` uses
too).  Induction over a chain of such records (`StepsOK`, or `CommitsOK` in terms of states) gives the property for any number
of consecutive undos (`undoAll`: `V.undo` on the given bytes, newest first).  The chain is a hypothesis: the theorems here call
neither `V.commit` nor `V.rollback`; that `commit` files such a record and `rollback` finds it is shown for one pair,
`C04_commit_then_rollback_raw` (Props/C04Commit.lean).
-/
namespace AnyDB.C04m
open VecM VecM.V C04r

theorem undo_shows (r : V) (c0 c : Snap) (ch : Change) (bytes : List UInt8) (hs : Shows r c) (hf : FaithfulS c0 c ch)
    (hparse : parseChange r.kind r.sz bytes = .ok ch) :
    (r.undo bytes).2 = .ok ∧ Shows (r.undo bytes).1 c0 :=
  have h := undo_slots r c0 c ch bytes hs.1 hs.2.2.2.2.2 hf hparse
  ⟨h.1, h.2.1⟩

abbrev Step := Snap × List UInt8 × Change

/-- the snapshot reached after undoing all steps, starting from `c` -/
def bottom : Snap → List Step → Snap
  | c, [] => c
  | _, st :: t => bottom st.1 t

/-- every step's record parses to a change that is faithful for the pair of snapshots it connects -/
def StepsOK (sz : Nat) : Snap → List Step → Prop
  | _, [] => True
  | c, st :: t => FaithfulS st.1 c st.2.2 ∧ parseChange .raw sz st.2.1 = .ok st.2.2 ∧ StepsOK sz st.1 t

def undoAll (r : V) (steps : List Step) : V := steps.foldl (fun r st => (r.undo st.2.1).1) r

/-- C04 for the raw formats, repeatedly: from ANY state that shows the newest committed snapshot, undoing the retained records
one after the other — each faithful for its commit — ends in a state that shows the oldest snapshot of the chain: its stamp,
stored length, deleted slots and the value of every stored slot.  (`undoAll` drops the answers; that each undo on the way
succeeds is `undo_shows`.) -/
theorem C04_rollbacks_raw (steps : List Step) (r : V) (c : Snap) (hs : Shows r c) (hok : StepsOK r.sz c steps) :
    Shows (undoAll r steps) (bottom c steps) ∧ (undoAll r steps).sz = r.sz := by
  induction steps generalizing r c with
  | nil => exact ⟨hs, rfl⟩
  | cons st t ih =>
    obtain ⟨h1, h2, h3⟩ := hok
    have hparse : parseChange r.kind r.sz st.2.1 = .ok st.2.2 := by rw [hs.1]; exact h2
    obtain ⟨_, hshow, hsz⟩ := undo_slots r st.1 c st.2.2 st.2.1 hs.1 hs.2.2.2.2.2 h1 hparse
    have := ih (r.undo st.2.1).1 st.1 hshow (by rw [hsz]; exact h3)
    simp only [undoAll, List.foldl_cons, bottom] at this ⊢
    exact ⟨this.1, by rw [this.2, hsz]⟩

/-- a chain of the model's commits, newest first: each entry is (the committed state before, the edited state that was
committed, the record bytes, the record) -/
abbrev CStep := V × V × List UInt8 × Change

def CommitsOK (sz : Nat) : V → List CStep → Prop
  | _, [] => True
  | p, st :: t => CleanCommitted st.1 ∧ After st.1 st.2.1 ∧ Written st.2.1 p ∧ st.2.1.storedLen ≤ p.storedLen ∧
      Faithful st.1 st.2.1 st.2.2.2 ∧ parseChange .raw sz st.2.2.1 = .ok st.2.2.2 ∧ CommitsOK sz st.1 t

def toSteps (l : List CStep) : List Step := l.map (fun st => (snapOf st.1, st.2.2.1, st.2.2.2))

def oldest : V → List CStep → V
  | p, [] => p
  | _, st :: t => oldest st.1 t

theorem stepsOK_of_commits (sz : Nat) (p : V) (l : List CStep) (h : CommitsOK sz p l) : StepsOK sz (snapOf p) (toSteps l) := by
  induction l generalizing p with
  | nil => trivial
  | cons st t ih =>
    obtain ⟨c1, c2, c3, c4, c5, c6, c7⟩ := h
    exact ⟨faithfulS_of_faithful st.1 st.2.1 p (snapOf p) st.2.2.2 c1 c2 c3 rfl c4 c5, c6, ih st.1 c7⟩

theorem bottom_toSteps (p : V) (l : List CStep) : bottom (snapOf p) (toSteps l) = snapOf (oldest p l) := by
  induction l generalizing p with
  | nil => rfl
  | cons st t ih => simp only [toSteps, List.map_cons, bottom, oldest]; exact ih st.1

theorem oldest_clean (p : V) (l : List CStep) (hp : CleanCommitted p) (sz : Nat) (h : CommitsOK sz p l) : CleanCommitted (oldest p l) := by
  induction l generalizing p with
  | nil => exact hp
  | cons st t ih => exact ih st.1 h.1 h.2.2.2.2.2.2

/-- C04, raw formats, repeatedly, in terms of states: `l` is a chain of commits (`CommitsOK`; each entry: the cleanly committed
state before, the edited state that was committed — reached from it by pushes, truncations, updates and deletions (`After`), the
newer committed state being what its write left (`Written`) — and a record, given with its bytes, that parses and is `Faithful`
for the pair).  Undoing ALL the records, newest first, from the newest committed state `p` gives a state in which every index
reads exactly what it read in the oldest committed state, deleted slots included, with that state's stamp and length -/
theorem C04_commits_then_rollbacks_raw (p : V) (l : List CStep) (hp : CleanCommitted p) (h : CommitsOK p.sz p l) :
    (undoAll p (toSteps l)).stamp = (oldest p l).stamp ∧ (undoAll p (toSteps l)).len = (oldest p l).len ∧
    ∀ i, ((undoAll p (toSteps l)).getAny i).1 = ((oldest p l).getAny i).1 := by
  obtain ⟨hs, _⟩ := C04_rollbacks_raw (toSteps l) p (snapOf p) (shows_clean p hp) (stepsOK_of_commits p.sz p l h)
  rw [bottom_toSteps] at hs
  have ho := shows_clean (oldest p l) (oldest_clean p l hp p.sz h)
  refine ⟨by rw [hs.2.2.2.2.1, ho.2.2.2.2.1], ?_, fun i => by rw [shows_getAny _ _ hs i, shows_getAny _ _ ho i]⟩
  unfold V.len
  rw [hs.2.1, hs.2.2.1, ho.2.1, ho.2.2.1]

end AnyDB.C04m
