import AnyDB.Lemmas.RawVec

/-!
# C03 — every storage format behaves like one reference vector at every step

Model: `AnyDB/Model/Vec.lean` (raw and compressed stored vectors).  The reference model of the
property is a growable list of optional values; `absItem s i` is what the vector shows at index
`i` (`get_any_or_read_at`: deleted → nothing; stored → overlay, else disk; buffered → `pushed`).

Proved here, for all states and arguments (no bound on lengths):

* `C03_len_push`, `C03_push_old`, `C03_push_new`   — push appends exactly one element and changes
                                                      no other index;
* `C03_update_same`, `C03_update_other`             — an accepted update shows the new value at its
                                                      index (also when the slot was deleted, stored
                                                      or still buffered) and changes no other index;
* `C03_delete_same`, `C03_delete_other`             — delete hides exactly that index;
* `C03_truncate_len`                                — truncate cuts the length to `min n len` (raw and compressed;
                                                      that no surviving index changes: `truncate_item`,
                                                      Props/C03Refine.lean);
* `C03_checkedPush_refused`, `C03_checkedPush_ok`   — a checked push at the wrong index is refused
                                                      and changes nothing; at the length it is a push;
* `C03_stamp_push`, `C03_stamp_truncate`            — push and truncate leave the stamp alone;
* `C03_stamp_stampedWrite`                          — `updateStamp`, the first step of a stamped write, sets it.

The raw `write()` is Props/C03Write.lean, every plain history Props/C03Refine.lean, the compressed formats
Props/C03Comp*.lean; `reset` and re-import are covered by the correspondence (real vectors of 14 format×type
combinations = compiled model = independent reference vector after every request); see DESIGN.md.
-/
namespace AnyDB.C03
open VecM VecM.V

/-- what the vector shows at index `i` -/
def absItem (s : V) (i : Nat) : Option Nat := (s.getAny i).1

/-- well-formedness needed by the statements below: deleted slots lie below the length -/
def HolesBelowLen (s : V) : Prop := ∀ h ∈ s.holes, h < s.len

theorem C03_len_push (s : V) (v : Nat) : (s.push v).len = s.len + 1 := by
  simp [V.push, V.len]; omega

theorem C03_push_old (s : V) (v i : Nat) (hi : i < s.len) : absItem (s.push v) i = absItem s i :=
  -- a buffered element: the buffer only grew behind it
  getAny_fst_congr (s.push v) s i Iff.rfl Iff.rfl
    (fun _ => show (s.pushed ++ [v])[i - s.storedLen]? = _ from List.getElem?_append_left (by unfold V.len at hi; omega)) (fun _ => rfl)

theorem C03_push_new (s : V) (v : Nat) (hw : HolesBelowLen s) : absItem (s.push v) s.len = some v := by
  unfold absItem
  rw [getAny_fst]
  show (if s.len ∈ s.holes then none else if s.storedLen ≤ s.len then (s.pushed ++ [v])[s.len - s.storedLen]? else _) = _
  have hl : s.storedLen ≤ s.len := Nat.le_add_right ..
  rw [if_neg (fun hc => Nat.lt_irrefl _ (hw _ hc)), if_pos hl, List.getElem?_append_right (by unfold V.len; omega)]
  have : s.len - s.storedLen - s.pushed.length = 0 := by unfold V.len; omega
  rw [this]
  rfl

theorem C03_update_same (s : V) (i v : Nat) (hok : (s.updateAt i v).2 = .ok) :
    absItem (s.updateAt i v).1 i = some v := by
  have hi : i < s.len := Decidable.by_contra (fun hc => by
    rw [updateAt_refused s i v hc] at hok
    cases hok)
  unfold absItem
  have hni : i ∉ s.holes.filter (· != i) := by simp [List.mem_filter]
  by_cases hs : s.storedLen ≤ i
  · rw [updateAt_pushed s i v hs hi, getAny_fst, if_neg hni, if_pos hs]
    exact List.getElem?_set_self (by unfold V.len at hi; omega)
  · rw [updateAt_stored s i v (Nat.lt_of_not_le hs), getAny_fst, if_neg hni, if_neg hs]
    unfold C04m.slotVal
    rw [mapGet_mapInsert, if_pos rfl]

theorem C03_update_other (s : V) (i v j : Nat) (hj : j ≠ i) :
    absItem (s.updateAt i v).1 j = absItem s j := by
  refine updateAt_state (P := fun t => absItem t j = absItem s j) s i v rfl (fun hs _ => ?_) (fun _ => ?_)
  · -- a buffered slot: the buffer changed at `i` only
    exact getAny_fst_congr _ s j (mem_filter_ne _ _ _ hj) Iff.rfl
      (fun hsj => show (s.pushed.set (i - s.storedLen) v)[j - s.storedLen]? = _ from List.getElem?_set_ne (by omega)) (fun _ => rfl)
  · -- a stored slot: the overlay changed at `i` only
    exact getAny_fst_congr _ s j (mem_filter_ne _ _ _ hj) Iff.rfl (fun _ => rfl)
      (fun _ => slotVal_congr _ s j ((mapGet_mapInsert ..).trans (if_neg (fun e => hj e.symm))) rfl)

theorem C03_delete_same (s : V) (i : Nat) (hi : i < s.len) : absItem (s.deleteAt i) i = none := by
  unfold absItem
  rw [deleteAt_eq s i hi, getAny_fst]
  exact if_pos ((mem_setInsert _ _ _).mpr (Or.inr rfl))

theorem C03_delete_other (s : V) (i j : Nat) (hj : j ≠ i) : absItem (s.deleteAt i) j = absItem s j := by
  refine deleteAt_state (P := fun t => absItem t j = absItem s j) s i rfl fun _ => ?_
  -- the deleted slots and the overlay changed at `i` only
  exact getAny_fst_congr _ s j ((mem_setInsert ..).trans ⟨(·.resolve_right hj), Or.inl⟩) Iff.rfl (fun _ => rfl)
    (fun _ => slotVal_congr _ s j ((mapGet_mapErase ..).trans (if_neg hj)) rfl)

theorem C03_truncate_len (s : V) (n : Nat) : (s.truncate n).len = min n s.len := by
  rw [truncate_frame]
  show min n s.storedLen + (s.pushed.take (n - s.storedLen)).length = min n (s.storedLen + s.pushed.length)
  rw [List.length_take]
  rcases Nat.le_total n s.storedLen with h | h
  · rw [Nat.min_eq_left h, Nat.sub_eq_zero_of_le h, Nat.zero_min, Nat.min_eq_left (Nat.le_trans h (Nat.le_add_right ..))]
    rfl
  · rw [Nat.min_eq_right h, ← Nat.add_min_add_left, Nat.add_sub_cancel' h]

theorem C03_checkedPush_refused (s : V) (i v : Nat) (h : i ≠ s.len) :
    s.checkedPushAt i v = (s, .err .unexpectedIndex) :=
  if_pos h

theorem C03_checkedPush_ok (s : V) (v : Nat) : s.checkedPushAt s.len v = (s.push v, .ok) :=
  if_neg (fun h => h rfl)

theorem C03_stamp_push (s : V) (v : Nat) : (s.push v).stamp = s.stamp := rfl
theorem C03_stamp_truncate (s : V) (n : Nat) : (s.truncate n).stamp = s.stamp := by
  rw [truncate_frame]
theorem C03_stamp_stampedWrite (s : V) (st : Nat) : (s.updateStamp st).stamp = st := by
  rw [updateStamp_eq]

/-- non-vacuity: a raw vector with a stored, an overlaid, a deleted and a buffered element -/
def ex : V := { V.init .raw 8 0 with disk := [10, 11, 12], storedLen := 3, pushed := [13], holes := [1], updated := [(2, 99)] }
example : HolesBelowLen ex := by intro h hh; simp [ex, V.init] at hh; subst hh; decide
example : (List.range ex.len).map (absItem ex) = [some 10, none, some 99, some 13] := by decide
example : absItem (ex.updateAt 1 7).1 1 = some 7 := by decide

end AnyDB.C03
