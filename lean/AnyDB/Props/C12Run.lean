import AnyDB.Props.C01Run

/-!
# C12 — `compact()` never alters a live region, in ANY reachable state of the model

Built on the refinement machinery of C01 (`Lemmas/Region*.lean`): `compact` = `flush` (pending holes are promoted; no
slot's metadata and no byte changes) followed by hole punching, which only zeroes (a) the tail of a region's reservation
beyond `start + ceilPage len` and (b) free extents — both apart from every region's contents because the layout invariant of
C02 holds (`quiet_punchHoles`, `hole_apart`, `slots_apart`).

* `C12_compact_quiet`   — from any state of the invariant: every slot keeps its metadata (name, start, length,
                          reservation = placement), the file does not shrink, every byte of every live region is kept;
* `C12_compact_history` — after EVERY history (no `reopen`, no panic, no `RegionSizeOverflow`) a `compact()` leaves what
                          every region shows, and every region's placement, exactly as it was, and the invariant holds
                          afterwards (so the next operations behave as C01/C02 say).

The concurrent clause ("whatever other threads are writing meanwhile") is C10's directed-schedule engine (finding F16);
the crash clause is C05's crash engine.
-/
namespace AnyDB.C01r
open C02r

theorem C12_compact_quiet (s : Db) (hinv : RInv s) : Quiet s s.compact.1 ∧ RInv s.compact.1 :=
  quiet_compact s hinv

/-- C12, sequential clause, for every reachable state of the model -/
theorem C12_compact_history (ops : List Op) (hr : NoReopen ops) (hf : FineRun Db.init ops) :
    view (run Db.init ops).compact.1 = view (run Db.init ops) ∧ mds (run Db.init ops).compact.1 = mds (run Db.init ops) ∧
    RInv (run Db.init ops).compact.1 := by
  obtain ⟨_, hrel, hinv, _⟩ := fine_run Db.init [] ops rel_init.1 rel_init.2 inf_init hr hf
  obtain ⟨hq, hi⟩ := C12_compact_quiet _ hinv
  obtain ⟨hr2, _⟩ := rel_compact _ _ hrel hinv
  exact ⟨by rw [view_of_rel _ _ hr2, view_of_rel _ _ hrel], hq.1, hi⟩

end AnyDB.C01r
