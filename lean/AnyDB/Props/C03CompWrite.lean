import AnyDB.Props.C03CompBase
import AnyDB.Props.C03CompPlan
/-!
# What a compressed `write()` does, proved on the plan

Lossless (`write_refines`): the pages a plan lays out decode to the kept head of the page at the write position followed by
the buffer (`wplan_tail`), and any such plan leaves what the vector shows unchanged (`runPlan_refines`).
Total (`writeComp_total`): the pages continue the gap-free run inside the data region (`wplan_chain`) and nothing of the
index is unflushed (`CSync`), so neither the data write nor the index flush can be refused (`runPlan_total`).
-/
namespace AnyDB.C03c
open VecM VecM.V C07

theorem cinv_hdr (s : V) (h : CInv s) : CInv s.writeHeaderIfNeeded ∧ shown s.writeHeaderIfNeeded = shown s := by
  obtain ⟨d, m, e⟩ := writeHeaderIfNeeded_frame s
  rw [e]
  exact ⟨⟨h.kind, h.pp, h.wf, h.stored⟩, rfl⟩

/-- the stored values of the page at the write position that stay -/
def headVals (s : V) : List Nat :=
  match s.pages[s.storedLen / s.perPage]? with
  | some page => page.content.take (s.storedLen % s.perPage)
  | none => []

theorem planEnc_tail (s : V) (cs : List Nat) (cut : Nat) (v0 : List Nat) (hpp : 0 < s.perPage) :
    pagesValues (planEnc s cs cut v0).tail = v0 ++ s.pushed ∧ PagesWF s.perPage (planEnc s cs cut v0).tail :=
  ⟨build_values _ _ _ _ _ hpp, enc_build_wf _ _ _ _ _ (split_wf _ _ _ hpp)⟩

theorem wplan_tail (s : V) (cs : List Nat) (h : CInv s) :
    pagesValues (wplan s cs).tail = headVals s ++ s.pushed ∧ PagesWF s.perPage (wplan s cs).tail := by
  unfold wplan headVals
  cases hp : s.pages[s.storedLen / s.perPage]? with
  | none => exact planEnc_tail s cs _ _ h.pp
  | some page =>
    simp only []
    split
    · next hf =>
      -- the fast path is taken only when the whole page is kept
      obtain ⟨g1, _, _⟩ := wf_get s.perPage s.pages _ page h.wf hp
      have hc : page.content.length = s.storedLen % s.perPage := by rw [g1]; exact hf.2.2.1.symm
      refine ⟨?_, ?_⟩
      · rw [pv_cons, pv_nil, List.append_nil, List.take_of_length_le (Nat.le_of_eq hc)]
      · exact ⟨by simp only [List.length_append]; rw [hc], Nat.le_of_lt hf.2.2.2⟩
    · exact planEnc_tail s cs _ _ h.pp

theorem runPlan_refines (s : V) (p : WPlan) (b : Bool) (h : CInv s)
    (hv : pagesValues p.tail = headVals s ++ s.pushed) (hw : PagesWF s.perPage p.tail) (hok : (runPlan s p).2 = .okB b) :
    shown (runPlan s p).1 = shown s ∧ CInv (runPlan s p).1 ∧ (runPlan s p).1.pushed = [] := by
  obtain ⟨ca, pd, e⟩ := runPlan_ok s p b hok
  obtain ⟨k1, _, _, k4⟩ := stored_split s h
  have hpv : pagesValues (s.pages.take (s.storedLen / s.perPage) ++ p.tail) = (pagesValues s.pages).take s.storedLen ++ s.pushed := by
    rw [pv_append, hv, ← List.append_assoc]
    exact congrArg (· ++ s.pushed) k1.symm
  have hlen : (pagesValues (s.pages.take (s.storedLen / s.perPage) ++ p.tail)).length = s.storedLen + s.pushed.length := by
    rw [hpv, List.length_append, List.length_take_of_le h.stored]
  rw [e]
  refine ⟨?_, ⟨h.kind, h.pp, wf_append_full _ _ _ k4 hw, Nat.le_of_eq hlen.symm⟩, rfl⟩
  show (pagesValues (s.pages.take (s.storedLen / s.perPage) ++ p.tail)).take (s.storedLen + s.pushed.length) ++ [] = _
  rw [List.append_nil, List.take_of_length_le (Nat.le_of_eq hlen), hpv]
  rfl

/-- **a successful compressed `write()` changes nothing of what the vector shows** and keeps the invariant -/
theorem write_refines (s : V) (cs : List Nat) (b : Bool) (h : CInv s) (hok : (s.writeComp cs).2 = .okB b) :
    shown (s.writeComp cs).1 = shown s ∧ CInv (s.writeComp cs).1 := by
  obtain ⟨h0, hs0⟩ := cinv_hdr s h
  rcases writeComp_cases s cs with e | e | e
  · rw [e.1]; exact ⟨hs0, h0⟩
  · rw [e.1]; exact ⟨hs0, h0⟩
  · rw [e] at hok ⊢
    obtain ⟨t1, t2⟩ := wplan_tail _ cs h0
    obtain ⟨r1, r2, _⟩ := runPlan_refines _ _ b h0 t1 t2 hok
    exact ⟨r1.trans hs0, r2⟩

/-- the page run is gap-free from the header and lies inside the data region; nothing of the index is unflushed and the
index region has one entry per page -/
structure CSync (s : V) : Prop where
  chain : Chained HEADER s.pages
  data : nextStart s.pages ≤ s.dataLen
  noChange : s.changeAt = none
  index : s.pagesDisk.length = s.pages.length

theorem CSync.edited {s t : V} (h : CSync s) (e : Edited s t) : CSync t := by
  rw [e.1]
  exact ⟨h.chain, h.data, h.noChange, h.index⟩

theorem planEnc_chain (s : V) (cs : List Nat) (cut : Nat) (v0 : List Nat)
    (hcut : cut = nextStart (s.pages.take (s.storedLen / s.perPage))) :
    (planEnc s cs cut v0).need = cut ∧ Chained cut (planEnc s cs cut v0).tail ∧
    chainEnd cut (planEnc s cs cut v0).tail = (planEnc s cs cut v0).newLen := by
  refine ⟨rfl, ?_, ?_⟩
  · rw [hcut]; exact C07_build_chained _ _
  · show chainEnd cut (buildPages _ _) = cut + _
    rw [← hcut, build_end]

theorem wplan_chain (s : V) (cs : List Nat) (hc : Chained HEADER s.pages) :
    (wplan s cs).need ≤ nextStart s.pages ∧ Chained HEADER (s.pages.take (s.storedLen / s.perPage) ++ (wplan s cs).tail) ∧
    nextStart (s.pages.take (s.storedLen / s.perPage) ++ (wplan s cs).tail) = (wplan s cs).newLen := by
  -- both plans lay a run out from `cut`, and `cut` is where the kept pages end
  suffices hh : ∃ cut, cut = nextStart (s.pages.take (s.storedLen / s.perPage)) ∧ (wplan s cs).need ≤ nextStart s.pages ∧
      Chained cut (wplan s cs).tail ∧ chainEnd cut (wplan s cs).tail = (wplan s cs).newLen by
    obtain ⟨cut, h1, h2, h3, h4⟩ := hh
    rw [nextStart_eq_chainEnd] at h1
    refine ⟨h2, chained_append _ _ _ (chained_take _ _ _ hc) (h1 ▸ h3), ?_⟩
    rw [nextStart_eq_chainEnd, chainEnd_append, ← h1, h4]
  unfold wplan
  cases hp : s.pages[s.storedLen / s.perPage]? with
  | none =>
    have hk : s.pages.take (s.storedLen / s.perPage) = s.pages :=
      List.take_of_length_le (List.getElem?_eq_none_iff.mp hp)
    obtain ⟨p1, p3, p4⟩ := planEnc_chain s cs (nextStart s.pages) [] (by rw [hk])
    exact ⟨_, by rw [hk], Nat.le_of_eq p1, p3, p4⟩
  | some page =>
    have hstart : page.start = nextStart (s.pages.take (s.storedLen / s.perPage)) := by
      rw [nextStart_eq_chainEnd]; exact start_at HEADER s.pages _ page hc hp
    have hstop : page.stop ≤ nextStart s.pages := by
      rw [nextStart_eq_chainEnd]; exact stop_le HEADER s.pages _ page hc hp
    simp only []
    split
    · refine ⟨page.start, hstart, hstop, ⟨rfl, trivial⟩, ?_⟩
      show page.start + (page.bytes + _) = page.start + page.bytes + _
      rw [Nat.add_assoc]
    · obtain ⟨p1, p3, p4⟩ := planEnc_chain s cs page.start (page.content.take (s.storedLen % s.perPage)) hstart
      exact ⟨_, hstart, by rw [p1]; exact Nat.le_trans (Nat.le_add_right _ _) hstop, p3, p4⟩

theorem runPlan_total (s : V) (p : WPlan) (hs : CSync s) (hspi : s.storedLen / s.perPage ≤ s.pages.length)
    (hneed : p.need ≤ nextStart s.pages) (hc : Chained HEADER (s.pages.take (s.storedLen / s.perPage) ++ p.tail))
    (hd : nextStart (s.pages.take (s.storedLen / s.perPage) ++ p.tail) = p.newLen) :
    (runPlan s p).2 = .okB true ∧ CSync (runPlan s p).1 := by
  have hca : (planned s p).changeAt = some (s.storedLen / s.perPage) := by
    show setChangedAt s.changeAt _ = _
    rw [hs.noChange]; rfl
  have hfl := pagesFlush_some (planned s p) _ hca (by
    rw [show (planned s p).pagesDisk = s.pagesDisk from rfl, hs.index]
    exact hspi)
  unfold runPlan
  rw [if_neg (Nat.not_lt.mpr (Nat.le_trans hneed hs.data)), hfl]
  refine ⟨rfl, ⟨hc, Nat.le_of_eq hd, rfl, ?_⟩⟩
  show (s.pagesDisk.take _ ++ ((s.pages.take _ ++ p.tail).drop _).map Page.entry).length = (s.pages.take _ ++ p.tail).length
  rw [List.length_append, List.length_take, List.length_map, List.length_drop, List.length_append, List.length_take, hs.index,
    Nat.min_eq_left hspi, Nat.add_sub_cancel_left]

/-- the page the write starts on exists or is the next one: what excludes the second `CorruptedRegion` answer of `writeComp` -/
theorem spi_le (s : V) (h : CInv s) : s.storedLen / s.perPage ≤ s.pages.length :=
  (Nat.div_le_iff_le_mul_add_pred h.pp).mpr (by
    have := pv_length_le s.perPage s.pages h.wf
    have := h.stored
    have := Nat.mul_comm s.perPage s.pages.length
    omega)

theorem csync_hdr (s : V) (hs : CSync s) : CSync s.writeHeaderIfNeeded := by
  obtain ⟨d, m, e⟩ := writeHeaderIfNeeded_frame s
  rw [e]
  exact ⟨hs.chain, hs.data, hs.noChange, hs.index⟩

/-- **a compressed `write()` never fails, loses nothing, leaves nothing buffered and keeps the invariants** — for any
compressor answers: `CorruptedRegion` is excluded by `CInv`, `WriteOutOfBounds` by `CSync` -/
theorem writeComp_total (s : V) (cs : List Nat) (h : CInv s) (hs : CSync s) :
    (∃ b, (s.writeComp cs).2 = .okB b) ∧ shown (s.writeComp cs).1 = shown s ∧ CInv (s.writeComp cs).1 ∧
    CSync (s.writeComp cs).1 ∧ (s.writeComp cs).1.pushed = [] := by
  obtain ⟨h0, hs0⟩ := cinv_hdr s h
  have hy0 := csync_hdr s hs
  have hspi := spi_le _ h0
  rcases writeComp_cases s cs with ⟨e, hpu⟩ | ⟨_, e⟩ | e
  · rw [e]; exact ⟨⟨_, rfl⟩, hs0, h0, hy0, hpu⟩
  · exfalso
    have := pagesStoredLen_eq _ _ h0.wf
    have := h0.stored
    omega
  · rw [e]
    obtain ⟨c1, c2, c3⟩ := wplan_chain _ cs hy0.chain
    obtain ⟨o1, o2⟩ := runPlan_total _ _ hy0 hspi c1 c2 c3
    obtain ⟨t1, t2⟩ := wplan_tail _ cs h0
    obtain ⟨r1, r2, r3⟩ := runPlan_refines _ _ true h0 t1 t2 o1
    exact ⟨⟨_, o1⟩, r1.trans hs0, r2, o2, r3⟩

theorem write_total (s : V) (cs : List Nat) (h : CInv s) (hs : CSync s) :
    (∃ b, (s.writeComp cs).2 = .okB b) ∧ shown (s.writeComp cs).1 = shown s ∧ CInv (s.writeComp cs).1 ∧ CSync (s.writeComp cs).1 := by
  obtain ⟨a, b, c, d, _⟩ := writeComp_total s cs h hs
  exact ⟨a, b, c, d⟩

theorem writeComp_total_norm (s : V) (cs : List Nat) (hn : s.writeHeaderIfNeeded = s) (h : CInv s) (hs : CSync s) :
    (∃ b, (s.writeComp cs).2 = .okB b) ∧ CSync (s.writeComp cs).1 := by
  -- true of every state: that the header is already written plays no part
  have _ := hn
  obtain ⟨a, _, _, d, _⟩ := writeComp_total s cs h hs
  exact ⟨a, d⟩

end AnyDB.C03c
