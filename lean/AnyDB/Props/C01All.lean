import AnyDB.Props.C01Total
/-!
# C01 / C02 for every well-formed history — reopen at any point, any number of times

`C01_history_all`, `C02_history_all`: the whole-history theorems of `Props/C01Total.lean` without the restriction "no reopen".
Hypotheses: `OKRun` (valid names; no region beyond 2^39 bytes in the reference — conditions on the requests only) and `ReadyRun`:
a reopen happens only in states in which every live region has been written at least once — the property promises survival
exactly for those ("a region that ever held data or was renamed survives flush and reopen"); a region that was created and never
touched is not in the metadata file and `Database::open` does not see it.

Conclusion: no request panics; after the history the database shows in every slot exactly what the reference shows
(name, length, bytes — the reference is compared slot by slot, trailing free slots do not count: the slot table is as long as
the metadata file after a reopen); extents are disjoint, fully accounted, page-aligned, inside the file, contents inside their
reservation, and the metadata file agrees with the slot table.

Both are projections of `good_run` (`Props/C01Total.lean`), which rests on: every invariant holds again in the state
`Database::open` rebuilds (`reopen_inv`: the holes of `Layout::from` start at the origin or at the end of a region and end where a
region starts — `lfs_spec`), the reopened database shows what it showed (`rel_reopen`), and the reference step commutes with
padding by free slots (`refStep_pad`).
-/
namespace AnyDB.C01r
open Db C02r

/-- **C01 for every well-formed history, reopen included** -/
theorem C01_history_all (ops : List Op) (hok : OKRun [] ops) (hready : ReadyRun Db.init ops) :
    NoPanic Db.init ops ∧
    ∀ idx, viewAt (run Db.init ops) idx = ((refRun ops)[idx]?.join).map liftE := by
  obtain ⟨hf, g⟩ := good_run Db.init [] ops good_init hok hready
  refine ⟨noPanic_of_fine Db.init ops hf, fun idx => ?_⟩
  obtain ⟨ρ', hrel, he⟩ := g.rel
  rw [hrel.2 idx, ← he.join idx]; rfl

/-- **C02 for every well-formed history, reopen included** -/
theorem C02_history_all (ops : List Op) (hok : OKRun [] ops) (hready : ReadyRun Db.init ops) :
    RInv (run Db.init ops) ∧ Acc (run Db.init ops) ∧ Al (run Db.init ops) ∧ InF (run Db.init ops) ∧ FInv (run Db.init ops) := by
  obtain ⟨_, g⟩ := good_run Db.init [] ops good_init hok hready
  exact ⟨g.rinv, g.acc, g.al, g.inf, g.finv⟩

instance decReady : (s : Db) → (ops : List Op) → Decidable (ReadyRun s ops)
  | _, [] => isTrue trivial
  | s, op :: t => by
    unfold ReadyRun
    have : Decidable (∀ n, op = .reopen n → ∀ idx sl, s.slot? idx = some sl → sl.st ≠ .needsWrite) := by
      cases op with
      | reopen m =>
        -- all live slots are written
        refine decidable_of_iff ((List.range s.slots.length).all (fun i => match s.slot? i with | some sl => decide (sl.st ≠ .needsWrite) | none => true) = true) ?_
        rw [List.all_eq_true]
        constructor
        · intro h n _ idx sl hs
          have hlt : idx < s.slots.length := by
            unfold Db.slot? at hs
            cases hg : s.slots[idx]? with
            | none => rw [hg] at hs; cases hs
            | some o => rw [List.getElem?_eq_some_iff] at hg; exact hg.1
          have := h idx (List.mem_range.mpr hlt)
          rw [hs] at this; simpa using this
        · intro h i _
          cases hs : s.slot? i with
          | none => rfl
          | some sl => simpa using h m rfl i sl hs
      | _ => exact isTrue (fun n h => by cases h)
    exact @instDecidableAnd _ _ this (decReady (step s op).1 t)

/-- a history with two reopens in the middle; around them a second region is created and written, the first is written again and
removed, and a third takes its slot index (at a new extent: the freed one is still pending).  Every write fits the page its region
has: no reservation grows, nothing is relocated.  It is well formed (`OKRun`, below); that every live region has been written when
it reopens (`ReadyRun`) is not evaluated here: it needs the data writes run. -/
def exOpsR : List Op := [.create [97], .write [97] [1, 2, 3], .flush, .reopen 0, .create [98], .write [98] (List.replicate 50 7),
  .write [97] [4], .flush, .reopen 0, .remove [97], .create [99], .write [99] [5]]
example : OKRun [] exOpsR := by decide

end AnyDB.C01r
