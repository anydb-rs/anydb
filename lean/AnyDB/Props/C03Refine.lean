import AnyDB.Props.C03Write
/-!
# C03 as a refinement — raw formats, every plain history

`C03_refinement_raw`: for EVERY sequence of pushes, updates (accepted or refused), deletions, truncations and
`write()`s applied by the model's own functions to an empty raw vector, the list of what the vector shows
(`itemsL`: `getAny` at every index below `len`) equals the same sequence folded over a plain `List (Option Nat)` —
the reference vector of the property.  One refinement lemma per operation (`push_refines`, `update_refines`,
`delete_refines`, `truncate_refines`, `write_refines`), each also preserving the state invariant `RawInv`; under
that invariant `write()` cannot fail (`writeRaw_ok`; `applyEdit` drops the answers).

Not covered here: the compressed formats (`C03_refinement_comp`, Props/C03Comp.lean), stamped writes / rollback (C04),
reset and re-import (correspondence).
-/
namespace AnyDB.C03r
open VecM VecM.V C03 C03w

/-- what the vector shows, index by index -/
def itemsL (s : V) : List (Option Nat) := (List.range s.len).map (fun i => (s.getAny i).1)

theorem itemsL_length (s : V) : (itemsL s).length = s.len := by
  unfold itemsL
  rw [List.length_map, List.length_range]

theorem itemsL_ext (a b : V) (hl : a.len = b.len) (h : ∀ i, i < b.len → (a.getAny i).1 = (b.getAny i).1) : itemsL a = itemsL b := by
  unfold itemsL; rw [hl]
  apply List.map_congr_left
  intro i hi
  exact h i (List.mem_range.mp hi)

/-- the shape of `itemsL` -/
theorem map_range_set {α : Type} (f : Nat → α) (n i : Nat) (x : α) :
    ((List.range n).map f).set i x = (List.range n).map (fun j => if j = i then x else f j) := by
  apply List.ext_getElem?
  intro j
  rw [List.getElem?_set, List.getElem?_map, List.getElem?_map]
  by_cases hj : j < n
  · rw [List.getElem?_range hj, List.length_map, List.length_range]
    by_cases hji : i = j
    · subst hji
      rw [if_pos rfl, if_pos hj]
      exact congrArg some (if_pos rfl).symm
    · rw [if_neg hji]
      exact congrArg some (if_neg (fun e => hji e.symm)).symm
  · rw [List.getElem?_eq_none (by rw [List.length_range]; exact Nat.le_of_not_lt hj), List.length_map, List.length_range]
    by_cases hji : i = j
    · rw [if_pos hji, if_neg (hji ▸ hj)]
      rfl
    · rw [if_neg hji]
      rfl

/-- the state invariant of plain histories on a raw vector -/
structure RawInv (s : V) : Prop where
  kind : s.kind = .raw
  upd : UpdInv s
  holes : HolesBelowLen s
  stored : s.storedLen ≤ s.disk.length

theorem rawInv_init (sz keep : Nat) : RawInv (V.init .raw sz keep) :=
  ⟨rfl, updInv_init .raw sz keep, fun _ hh => (nomatch hh), Nat.le_refl _⟩

theorem push_refines (s : V) (v : Nat) (h : RawInv s) : itemsL (s.push v) = itemsL s ++ [some v] ∧ RawInv (s.push v) := by
  refine ⟨?_, ⟨h.kind, updInv_push s v h.upd, ?_, h.stored⟩⟩
  · unfold itemsL
    rw [C03_len_push, List.range_succ, List.map_append]
    congr 1
    · exact List.map_congr_left (fun i hi => C03_push_old s v i (List.mem_range.mp hi))
    · exact congrArg (· :: []) (C03_push_new s v h.holes)
  · intro x hx
    rw [C03_len_push]
    exact Nat.lt_succ_of_lt (h.holes x hx)

theorem update_refines (s : V) (i v : Nat) (h : RawInv s) (hi : i < s.len) :
    itemsL (s.updateAt i v).1 = (itemsL s).set i (some v) ∧ RawInv (s.updateAt i v).1 := by
  have hok : (s.updateAt i v).2 = .ok := by rw [updateAt_eq s i v hi]
  refine ⟨?_, ?_⟩
  · unfold itemsL
    rw [map_range_set, updateAt_len]
    refine List.map_congr_left (fun j _ => ?_)
    by_cases hji : j = i
    · subst hji
      rw [if_pos rfl]
      exact C03_update_same s j v hok
    · rw [if_neg hji]
      exact C03_update_other s i v j hji
  · have hu := updInv_update s i v h.upd
    have hl := updateAt_len s i v
    rw [updateAt_eq s i v hi] at hu hl ⊢
    refine ⟨h.kind, hu, fun x hx => ?_, h.stored⟩
    rw [hl]
    exact h.holes x (List.mem_filter.mp hx).1

theorem delete_refines (s : V) (i : Nat) (h : RawInv s) :
    itemsL (s.deleteAt i) = (if i < s.len then (itemsL s).set i none else itemsL s) ∧ RawInv (s.deleteAt i) := by
  by_cases hi : i < s.len
  · rw [if_pos hi]
    refine ⟨?_, ?_⟩
    · unfold itemsL
      rw [map_range_set, deleteAt_len]
      refine List.map_congr_left (fun j _ => ?_)
      by_cases hji : j = i
      · subst hji
        rw [if_pos rfl]
        exact C03_delete_same s j hi
      · rw [if_neg hji]
        exact C03_delete_other s i j hji
    · have hu := updInv_delete s i h.upd
      rw [deleteAt_eq s i hi] at hu ⊢
      refine ⟨h.kind, hu, fun x hx => ?_, h.stored⟩
      rcases (mem_setInsert _ _ _).mp hx with h1 | h1
      · exact h.holes x h1
      · rw [h1]
        exact hi
  · rw [if_neg hi, deleteAt_refused s i hi]
    exact ⟨rfl, h⟩

theorem truncate_item (s : V) (n i : Nat) (hk : s.kind = .raw) (hi : i < n) : ((s.truncate n).getAny i).1 = (s.getAny i).1 := by
  rw [truncate_raw s n hk]
  refine getAny_fst_congr _ s i (List.mem_filter.trans (and_iff_left (decide_eq_true hi))) (Nat.lt_min.trans (and_iff_right hi))
    (fun hs => ?_) (fun _ => slotVal_congr _ s i ((mapGet_filter_lt ..).trans (if_pos hi)) rfl)
  -- a buffered element below the cut
  show (s.pushed.take (n - s.storedLen))[i - min n s.storedLen]? = _
  rw [Nat.min_eq_right (Nat.le_trans hs (Nat.le_of_lt hi)), List.getElem?_take_of_lt (Nat.sub_lt_sub_right hs hi)]

theorem truncate_refines (s : V) (n : Nat) (h : RawInv s) : itemsL (s.truncate n) = (itemsL s).take n ∧ RawInv (s.truncate n) := by
  have hlen := C03_truncate_len s n
  refine ⟨?_, ?_⟩
  · unfold itemsL
    rw [hlen, ← List.map_take, List.take_range]
    exact List.map_congr_left (fun i hi =>
      truncate_item s n i h.kind (Nat.lt_of_lt_of_le (List.mem_range.mp hi) (Nat.min_le_left ..)))
  · have hu := updInv_truncate s n h.kind h.upd
    rw [truncate_raw s n h.kind] at hu hlen ⊢
    refine ⟨h.kind, hu, fun x hx => ?_, Nat.le_trans (Nat.min_le_right ..) h.stored⟩
    rw [hlen]
    have hx' := List.mem_filter.mp hx
    exact Nat.lt_min.mpr ⟨of_decide_eq_true hx'.2, h.holes x hx'.1⟩

theorem write_refines (s : V) (b : Bool) (h : RawInv s) (hok : s.writeRaw.2 = .okB b) :
    itemsL s.writeRaw.1 = itemsL s ∧ RawInv s.writeRaw.1 := by
  have hu := updOK_of_inv s h.upd
  refine ⟨itemsL_ext _ _ ?_ (fun i _ => C03_write_preserves s b hok hu h.stored i), ?_⟩
  · rw [writeRaw_fst s h.stored h.upd.2]
    show s.storedLen + s.pushed.length + ([] : List Nat).length = s.len
    rfl
  · rw [writeRaw_fst s h.stored h.upd.2]
    refine ⟨h.kind, ⟨List.Pairwise.nil, fun _ hm => nomatch hm⟩, h.holes, ?_⟩
    show s.storedLen + s.pushed.length ≤ (overlaid _ _).length
    rw [overlaid_length, List.length_append, List.length_take_of_le h.stored]
    exact Nat.le_refl _

theorem writeRaw_ok (s : V) (h : RawInv s) : ∃ b, s.writeRaw.2 = .okB b := by
  obtain ⟨b, hw⟩ := writeRaw_eq s h.stored h.upd.2
  exact ⟨b, by rw [hw]⟩

inductive Edit
  | push (v : Nat) | update (i v : Nat) | delete (i : Nat) | truncate (n : Nat) | write
deriving Repr

/-- the edits on the vector (the model's own functions) -/
def applyEdit (s : V) : Edit → V
  | .push v => s.push v
  | .update i v => (s.updateAt i v).1
  | .delete i => s.deleteAt i
  | .truncate n => s.truncate n
  | .write => s.writeRaw.1

/-- the same edits on a plain list of optional values: the reference vector of C03 -/
def refEdit (l : List (Option Nat)) : Edit → List (Option Nat)
  | .push v => l ++ [some v]
  | .update i v => if i < l.length then l.set i (some v) else l
  | .delete i => if i < l.length then l.set i none else l
  | .truncate n => l.take n
  | .write => l

theorem edit_refines (s : V) (e : Edit) (h : RawInv s) : itemsL (applyEdit s e) = refEdit (itemsL s) e ∧ RawInv (applyEdit s e) := by
  cases e with
  | push v => exact push_refines s v h
  | update i v =>
    simp only [applyEdit, refEdit, itemsL_length]
    by_cases hi : i < s.len
    · rw [if_pos hi]
      exact update_refines s i v h hi
    · rw [if_neg hi, updateAt_refused s i v hi]
      exact ⟨rfl, h⟩
  | delete i =>
    simp only [applyEdit, refEdit, itemsL_length]
    exact delete_refines s i h
  | truncate n => exact truncate_refines s n h
  | write =>
    obtain ⟨b, hb⟩ := writeRaw_ok s h
    exact write_refines s b h hb

theorem C03_refinement_raw (es : List Edit) (sz keep : Nat) :
    itemsL (es.foldl applyEdit (V.init .raw sz keep)) = es.foldl refEdit [] ∧ RawInv (es.foldl applyEdit (V.init .raw sz keep)) := by
  suffices hh : ∀ (s : V) (l : List (Option Nat)), RawInv s → itemsL s = l →
      itemsL (es.foldl applyEdit s) = es.foldl refEdit l ∧ RawInv (es.foldl applyEdit s) from
    hh _ _ (rawInv_init sz keep) rfl
  induction es with
  | nil => intro s l h hl; exact ⟨hl, h⟩
  | cons e t ih =>
    intro s l h hl
    obtain ⟨r1, r2⟩ := edit_refines s e h
    exact ih _ _ r2 (by rw [r1, hl])

-- non-vacuity: a history on the model, evaluated
example : itemsL ([Edit.push 1, .push 2, .push 3, .write, .delete 1, .update 2 9, .push 4, .truncate 3, .write].foldl applyEdit (V.init .raw 8 0))
    = [some 1, none, some 9] := by decide

end AnyDB.C03r
