import AnyDB.Props.C15
/-!
# C15 — range reads of the sparse aggregation equal the formula, for every range

`C15_agg_range`: `Sparse::try_fold` — a first loop that builds a slot table and the sorted list of group-end positions, ONE sorted
read of the source, a second loop that fills the slots — returns exactly the formula (the last element of each non-empty group,
nothing for an empty group) at every index of `[from, min(to, |mapping|))`, for every source and every first-index mapping
whose non-empty groups end inside the source (beyond that is finding F7).  The formula is written out on the right-hand side of
the statement (`aCur`, `aNext`, `aEmpty`); it does not mention `aggFormula` of the model, and no theorem relates the two.
-/
namespace AnyDB.C15
open AnyDB Lazy

def aCur (mapping : List Nat) (i : Nat) : Nat := mapping.getD i 0
def aNext (s mapping : List Nat) (i : Nat) : Nat := if i + 1 < mapping.length then mapping.getD (i + 1) 0 else s.length
def aEmpty (s mapping : List Nat) (i : Nat) : Prop := aNext s mapping i = 0 ∨ aCur mapping i ≥ aNext s mapping i
instance (s mapping : List Nat) (i : Nat) : Decidable (aEmpty s mapping i) := by unfold aEmpty; infer_instance

/-- the first loop of `Sparse::try_fold`: slot table and the sorted positions to read -/
def aggStep (s mapping : List Nat) (from_ : Nat) (acc : List (Option Nat) × List Nat) (k : Nat) : List (Option Nat) × List Nat :=
  let i := from_ + k
  let cur := mapping.getD i 0
  let next := if i + 1 < mapping.length then mapping.getD (i + 1) 0 else s.length
  if next = 0 ∨ cur ≥ next then (acc.1 ++ [none], acc.2) else (acc.1 ++ [some acc.2.length], acc.2 ++ [next - 1])

def aggSlots (s mapping : List Nat) (from_ n : Nat) : List (Option Nat) × List Nat :=
  (List.range n).foldl (aggStep s mapping from_) ([], [])

theorem aggSlots_succ (s mapping : List Nat) (from_ n : Nat) :
    aggSlots s mapping from_ (n + 1) = aggStep s mapping from_ (aggSlots s mapping from_ n) n := by
  unfold aggSlots
  rw [List.range_succ, List.foldl_append]; rfl

theorem aggStep_eq (s mapping : List Nat) (from_ : Nat) (acc : List (Option Nat) × List Nat) (k : Nat) :
    aggStep s mapping from_ acc k = if aEmpty s mapping (from_ + k) then (acc.1 ++ [none], acc.2)
      else (acc.1 ++ [some acc.2.length], acc.2 ++ [aNext s mapping (from_ + k) - 1]) := rfl

/-- what the first loop has built after `n` groups, as one list equation: looking every slot up in the position list
gives, group by group, nothing for an empty group and the position of its last element otherwise -/
theorem aggSlots_eq (s mapping : List Nat) (from_ n : Nat) :
    (∀ vi, some vi ∈ (aggSlots s mapping from_ n).1 → vi < (aggSlots s mapping from_ n).2.length) ∧
    (aggSlots s mapping from_ n).1.map (fun sl => sl.bind fun vi => (aggSlots s mapping from_ n).2[vi]?) =
      (List.range n).map (fun k => if aEmpty s mapping (from_ + k) then none else some (aNext s mapping (from_ + k) - 1)) ∧
    (∀ p ∈ (aggSlots s mapping from_ n).2, ∃ k, k < n ∧ ¬aEmpty s mapping (from_ + k) ∧ p = aNext s mapping (from_ + k) - 1) := by
  induction n with
  | zero => exact ⟨fun vi h => by simp [aggSlots] at h, rfl, fun p hp => by simp [aggSlots] at hp⟩
  | succ n ih =>
    obtain ⟨i1, i2, i3⟩ := ih
    rw [aggSlots_succ, List.range_succ, List.map_append, ← i2]
    generalize aggSlots s mapping from_ n = acc at i1 i2 i3
    rw [aggStep_eq]
    simp only [List.map_cons, List.map_nil]
    by_cases he : aEmpty s mapping (from_ + n)
    · simp only [if_pos he]
      refine ⟨fun vi h => i1 vi (by simpa using h), by simp, fun p hp => ?_⟩
      obtain ⟨k, k1, k2⟩ := i3 p hp
      exact ⟨k, by omega, k2⟩
    · simp only [if_neg he]
      refine ⟨fun vi h => ?_, ?_, fun p hp => ?_⟩
      · rw [List.length_append]
        rcases List.mem_append.1 h with h | h
        · have := i1 vi h
          omega
        · simp at h
          subst h
          simp
      · -- the new slot points at the new position; the old slots are below it and see the old positions
        simp only [List.map_append, List.map_cons, List.map_nil, Option.bind_some, List.getElem?_concat_length]
        congr 1
        refine List.map_congr_left fun sl hsl => ?_
        cases sl with
        | none => rfl
        | some vi =>
          simp only [Option.bind_some]
          rw [List.getElem?_append_left (i1 vi hsl)]
      · rcases List.mem_append.1 hp with h | h
        · obtain ⟨k, k1, k2⟩ := i3 p h
          exact ⟨k, by omega, k2⟩
        · simp at h
          exact ⟨n, by omega, he, h⟩

/-- the second loop: every slot with a value index finds its value -/
theorem aggFill_eq (values : List Nat) (slots : List (Option Nat)) (h : ∀ vi, some vi ∈ slots → vi < values.length) (acc : List (Option Nat)) :
    slots.foldl (fun (acc : R (List (Option Nat))) sl =>
      match acc with
      | .panic => .panic
      | .ok l =>
        match sl with
        | none => .ok (l ++ [none])
        | some vi => match values[vi]? with
          | some v => .ok (l ++ [some v])
          | none => .panic) (.ok acc) = .ok (acc ++ slots.map (fun sl => sl.bind (fun vi => values[vi]?))) := by
  rw [fold_ok slots _ (fun sl => some (sl.bind (fun vi => values[vi]?))) ?_ acc, List.filterMap_eq_map']
  intro sl hsl l
  cases sl with
  | none => rfl
  | some vi => simp only [List.getElem?_eq_getElem (h vi hsl), Option.bind_some, Option.toList_some]

theorem readSorted_all (s idx : List Nat) (h : ∀ p ∈ idx, p < s.length) : readSorted s idx = idx.map (fun p => s.getD p 0) := by
  unfold readSorted
  induction idx with
  | nil => rfl
  | cons a t ih =>
    rw [List.filterMap_cons, List.getElem?_eq_getElem (h a (List.mem_cons_self ..)), List.getElem_eq_getD 0, List.map_cons,
      ih (fun p hp => h p (List.mem_cons_of_mem _ hp))]

theorem C15_agg_range (s mapping : List Nat) (from_ to : Nat)
    (hin : ∀ i, from_ ≤ i → i < min to mapping.length → ¬aEmpty s mapping i → aNext s mapping i - 1 < s.length) :
    aggRange s mapping from_ to =
      .ok ((List.range (min to mapping.length - from_)).map (fun k =>
        if aEmpty s mapping (from_ + k) then none else some (s.getD (aNext s mapping (from_ + k) - 1) 0))) := by
  unfold aggRange
  simp only []
  generalize hto : min to mapping.length = t at hin
  by_cases hge : from_ ≥ t
  · rw [if_pos hge, Nat.sub_eq_zero_of_le hge]
    rfl
  · rw [if_neg hge]
    have hslots : (List.range (t - from_)).foldl (fun (acc : List (Option Nat) × List Nat) k =>
        let i := from_ + k
        let cur := mapping.getD i 0
        let next := if i + 1 < mapping.length then mapping.getD (i + 1) 0 else s.length
        if next = 0 ∨ cur ≥ next then (acc.1 ++ [none], acc.2)
        else (acc.1 ++ [some acc.2.length], acc.2 ++ [next - 1])) ([], []) = aggSlots s mapping from_ (t - from_) := rfl
    rw [hslots]
    obtain ⟨p1, p2, p3⟩ := aggSlots_eq s mapping from_ (t - from_)
    generalize aggSlots s mapping from_ (t - from_) = sl at p1 p2 p3
    -- every position read lies inside the source, so the sorted read skips nothing
    have hP : ∀ p ∈ sl.2, p < s.length := by
      intro p hp
      obtain ⟨k, k1, k2, k3⟩ := p3 p hp
      rw [k3]
      exact hin (from_ + k) (by omega) (by omega) k2
    rw [readSorted_all s sl.2 hP]
    refine (aggFill_eq (sl.2.map fun p => s.getD p 0) sl.1 (fun vi h => by rw [List.length_map]; exact p1 vi h) []).trans ?_
    rw [List.nil_append]
    -- looking a slot up in the values = looking it up in the positions, then reading the source there
    have hmap : sl.1.map (fun o => o.bind fun vi => (sl.2.map fun p => s.getD p 0)[vi]?) =
        (sl.1.map fun o => o.bind fun vi => sl.2[vi]?).map (Option.map fun p => s.getD p 0) := by
      rw [List.map_map]
      refine List.map_congr_left fun o _ => ?_
      cases o <;> simp
    rw [hmap, p2, List.map_map]
    congr 2
    funext k
    simp only [Function.comp]
    split <;> rfl

end AnyDB.C15
