import AnyDB.Lemmas.CrashKeep
import AnyDB.Props.C05
import AnyDB.Props.C01Total
/-!
# C05 over whole histories: the data of a region nobody names survives every crash

`Props/C05.lean` proves the durability half in isolation (`C05_untouched`: bytes of a range no later event stores into are
in every crash image).  This file proves the other half on the rawdb model and joins the two:

* `keep_step` (`Lemmas/CrashKeep.lean`, over the footprint of `write_with` in `Lemmas/Footprint.lean`): a request that does not
  name region `j` (`Touches`) leaves `j`'s metadata alone and every event it appends to the log — all four placement paths of
  `write_with` on other regions incl. the relocation copy, creation, removal, retain, flush, compaction's hole punching, file
  growth — stores nothing into the pages `[start, start + ceilPage len)` of `j` and never cuts the file below them; the reasons
  are C02's (head of `Lemmas/CrashKeep.lean`);
* `keep_run`: the same for every history of such requests in which none panics or answers `RegionSizeOverflow` (`FineRun`);
* `C05_history_data`: take the data file right after a sync (what `flush()` does), let ANY well-behaved history that does not
  name region `j` run, stop it after ANY number of its events (every crash point, also inside a request), and let the
  operating system keep any content for every page stored to since the last sync: in EVERY such crash image the bytes
  `[start, start+len)` of region `j` are exactly the ones it had at the sync — and its slot in the model still says the same
  name, start, length and reservation.
* `C05_history_slot`: the same for the METADATA file — no later request writes slot `j` or cuts the file below it, so in
  every crash image the slot's 4096 bytes are the synced ones: the region comes back with its name, start, length and
  reservation.  It is stated like `C05_history_data`, from any state of the invariants (`Rel`, `RInv`, `InF`, `Al`, `FineRun`);
  there is no version of it from the empty database.
* `C05_history_all`, `C05_history`: `C05_history_data` from the empty database.  The invariants and "no panic" are no longer
  assumed: they follow from conditions on the requests (`OKRun`, `ReadyRun` of `Props/C01Total.lean`).  `hjr` (the slot lies
  inside the metadata file) is still asked, though it follows from `FInv` of the state at the sync.

Not proved here (crash engine): that the WHOLE metadata file after the crash decodes to a disjoint layout (the ordering argument
`C05_order` for the slots that WERE rewritten), and the "never a mixture" sentence for regions that were modified.
-/
namespace AnyDB.C05r
open C02r C01r Durable

theorem keep_run (s : Db) (r : Ref) (ops : List Op) (hrel : Rel s r) (hinv : RInv s) (hi : InF s) (ha : Al s)
    (hr : NoReopen ops) (hf : FineRun s ops) (j : Nat) (slj : Slot) (hsj : s.slot? j = some slj)
    (hunt : ∀ op ∈ ops, ¬Touches slj.md.id op) (hjr : j < s.rfile.length) :
    Keep j slj.md.start (slj.md.start + ceilPage slj.md.len) s (run s ops) := by
  induction ops generalizing s r slj with
  | nil => exact Keep.refl _ _ _ _
  | cons op t ih =>
    have hno := hr op (List.mem_cons_self ..)
    have k1 := keep_step s op hinv hi ha j slj hsj (hunt op (List.mem_cons_self ..)) hjr
    obtain ⟨_, r1, r2, hi'⟩ := fine_next s r op hrel hinv hi hno hf.1
    have ha' : Al (step s op).1 := (al_step s op hinv.lay ha hno).resolve_left hf.1.1
    obtain ⟨slj', hsj', hmd⟩ := md_of_keep k1 slj hsj
    have k2 := ih (step s op).1 _ r1 r2 hi' ha' (fun o ho => hr o (List.mem_cons_of_mem _ ho)) hf.2 slj' hsj'
      (by rw [hmd]; exact fun o ho => hunt o (List.mem_cons_of_mem _ ho)) (Nat.lt_of_lt_of_le hjr k1.2.2.2)
    rw [hmd] at k2
    exact k1.trans k2

/-- the events of the data file, as the durability model sees them -/
def dataEv : Event → List Durable.Ev
  | .dataWrite off d => [.write off d]
  | .setLen .data n => [.setLen n]
  | .sync .data => [.sync]
  | .punch off len => [.punch off len]
  | _ => []

theorem div_lt_div_of_lt_aligned (P a x : Nat) (ha : a % P = 0) (h : x < a) : x / P < a / P :=
  Nat.div_lt_of_lt_mul (by rw [Nat.mul_div_cancel' (Nat.dvd_of_mod_eq_zero ha)]; exact h)

theorem add_pred_div_aligned (P a : Nat) (hP : 0 < P) (ha : a % P = 0) : (a + P - 1) / P = a / P := by
  obtain ⟨k, rfl⟩ := Nat.dvd_of_mod_eq_zero ha
  rw [Nat.add_sub_assoc hP, Nat.mul_add_div hP, Nat.div_eq_of_lt (Nat.sub_one_lt (Nat.ne_of_gt hP)), Nat.mul_div_cancel_left _ hP]
  rfl

/-- a store of `n` bytes at `off` that stays off the page-aligned window `[a, b)` stores into no page of `[a, c)`, `c ≤ b`:
the one place where bytes are turned into pages -/
theorem pagesOf_avoid (a b c off n : Nat) (ha : a % Gen.PAGE_SIZE = 0) (hb : b % Gen.PAGE_SIZE = 0) (hc : c ≤ b)
    (h : off + n ≤ a ∨ b ≤ off) :
    ∀ p ∈ pagesOf off n, p < a / Gen.PAGE_SIZE ∨ (c + Gen.PAGE_SIZE - 1) / Gen.PAGE_SIZE ≤ p := by
  intro p hp
  obtain ⟨hn, lo, hi⟩ := (C05.mem_pagesOf_iff off n p).mp hp
  rcases h with h | h
  · -- the last byte stored lies below `a`
    have hlast : off + n - 1 < a := Nat.sub_one_lt_of_le (Nat.lt_of_lt_of_le (Nat.pos_of_ne_zero hn) (Nat.le_add_left _ _)) h
    exact .inl (Nat.lt_of_le_of_lt hi (div_lt_div_of_lt_aligned _ _ _ ha hlast))
  · -- the first byte stored lies at or above `b`
    refine .inr (Nat.le_trans ?_ (Nat.le_trans (Nat.div_le_div_right h) lo))
    rw [← add_pred_div_aligned _ b C05.pageSize_pos hb]
    exact Nat.div_le_div_right (Nat.sub_le_sub_right (Nat.add_le_add_right hc _) 1)

/-- byte-level avoidance of the page-aligned window gives the page-level avoidance the durability theorem asks for -/
theorem avoids_of_av (j start len : Nat) (hs : start % Gen.PAGE_SIZE = 0) (e : Event) (h : Av j start (start + ceilPage len) e) :
    ∀ e' ∈ dataEv e, e'.avoids start (start + len) := by
  have hb : (start + ceilPage len) % Gen.PAGE_SIZE = 0 :=
    Nat.mod_eq_zero_of_dvd (Nat.dvd_add (Nat.dvd_of_mod_eq_zero hs) (Nat.dvd_of_mod_eq_zero (ceilPage_mod len)))
  have hc : start + len ≤ start + ceilPage len := Nat.add_le_add_left (le_ceilPage len) _
  intro e' he'
  -- the seven kinds of event that `dataEv` drops go at once; left: `dataWrite`, `setLen .data`, `sync .data`, `punch`
  rcases e with ⟨off, d⟩ | _ | ⟨_ | _, n⟩ | _ | _ | ⟨_ | _⟩ | ⟨off, n⟩ <;> try exact absurd he' List.not_mem_nil
  all_goals cases List.mem_singleton.mp he'
  · exact pagesOf_avoid _ _ _ off d.length hs hb hc h
  · exact Nat.le_trans hc h
  · trivial
  · exact pagesOf_avoid _ _ _ off n hs hb hc h

/-- the durability half, for a projection `proj` of the log onto one file: if every event of the continuation projects to
events that store nothing into the pages of `[A, B)`, then at every crash point every crash image shows the synced bytes there -/
theorem crash_keeps (proj : Event → List Durable.Ev) (A B : Nat) (evs : List Event) (k : Nat)
    (hav : ∀ e ∈ evs, ∀ e' ∈ proj e, e'.avoids A B) (g : FileD) (hgl : B ≤ g.volatile.length) (img : List UInt8)
    (hc : CrashImage ((g.apply .sync).run ((evs.take k).flatMap proj)) img) :
    ∀ i, A ≤ i → i < B → img[i]? = g.volatile[i]? :=
  C05.C05_untouched g _ A B img hgl (fun e' he' => by
    obtain ⟨e, he, hee⟩ := List.mem_flatMap.mp he'
    exact hav e (List.mem_of_mem_take he) e' hee) hc

/-- **C05, data half, for every history and every crash point.**  `s`: any state of the invariants (every reachable state
is one); region `j` is live with slot `slj`; `f`: the data file right after a sync, showing what the mapping shows
(`hfv`); `ops`: any history without reopen in which no request panics or answers `RegionSizeOverflow` (`FineRun`) and none
names region `j`; `k`: how many of the events of that history have happened when the machine stops; `img`: ANY content the
file may then have (pages stored to since the last sync hold anything).  Then region `j`'s slot still carries its name, start,
length and reservation, and every byte of its data is in `img` exactly as it was at the sync. -/
theorem C05_history_data (s : Db) (r : Ref) (ops : List Op) (hrel : Rel s r) (hinv : RInv s) (hi : InF s) (ha : Al s)
    (hr : NoReopen ops) (hf : FineRun s ops) (j : Nat) (slj : Slot) (hsj : s.slot? j = some slj)
    (hunt : ∀ op ∈ ops, ¬Touches slj.md.id op) (hjr : j < s.rfile.length)
    (f : FileD) (hfl : slj.md.start + slj.md.len ≤ f.volatile.length) (hfv : ∀ i, i < f.volatile.length → f.volatile[i]? = s.mem.get? i)
    (k : Nat) (img : List UInt8)
    (hc : CrashImage ((f.apply .sync).run ((((run s ops).log.drop s.log.length).take k).flatMap dataEv)) img) :
    ((run s ops).slot? j).map (·.md) = some slj.md ∧
    ∀ i, i < slj.md.len → img[slj.md.start + i]? = s.mem.get? (slj.md.start + i) := by
  obtain ⟨k1, ⟨evs, hlog, hav⟩, _⟩ := keep_run s r ops hrel hinv hi ha hr hf j slj hsj hunt hjr
  refine ⟨by rw [k1, hsj]; rfl, fun i hi' => ?_⟩
  have hdrop : (run s ops).log.drop s.log.length = evs := by rw [hlog]; exact List.drop_left
  rw [hdrop] at hc
  have hal := (alE_slot s ha j slj hsj).1
  rw [crash_keeps dataEv slj.md.start (slj.md.start + slj.md.len) evs k (fun e he => avoids_of_av j _ _ hal e (hav e he))
    f hfl img hc (slj.md.start + i) (by omega) (by omega)]
  exact hfv _ (by omega)

/-- the events of the metadata file, as the durability model sees them; `enc` is the 4096-byte image of a slot -/
def regEv (enc : Option Meta → List UInt8) : Event → List Durable.Ev
  | .metaWrite idx m => [.write (idx * Gen.SIZE_OF_REGION_METADATA) (enc m)]
  | .setLen .regions n => [.setLen n]
  | .sync .regions => [.sync]
  | _ => []

theorem slot_bytes_apart (S i j : Nat) (h : i ≠ j) : i * S + S ≤ j * S ∨ (j + 1) * S ≤ i * S := by
  rcases Nat.lt_or_gt_of_ne h with h | h
  · exact .inl (Nat.succ_mul i S ▸ Nat.mul_le_mul_right S h)
  · exact .inr (Nat.mul_le_mul_right S h)

theorem avoids_slot (j a b : Nat) (enc : Option Meta → List UInt8) (henc : ∀ m, (enc m).length = Gen.SIZE_OF_REGION_METADATA)
    (e : Event) (h : Av j a b e) :
    ∀ e' ∈ regEv enc e, e'.avoids (j * Gen.SIZE_OF_REGION_METADATA) ((j + 1) * Gen.SIZE_OF_REGION_METADATA) := by
  intro e' he'
  -- left: `metaWrite`, `setLen .regions`, `sync .regions`
  rcases e with _ | ⟨idx, m⟩ | ⟨_ | _, n⟩ | _ | _ | ⟨_ | _⟩ | _ <;> try exact absurd he' List.not_mem_nil
  all_goals cases List.mem_singleton.mp he'
  · -- a slot is a page, and `idx` is another slot
    refine pagesOf_avoid _ ((j + 1) * Gen.SIZE_OF_REGION_METADATA) _ _ _ (Nat.mul_mod_left j _) (Nat.mul_mod_left (j + 1) _) (Nat.le_refl _) ?_
    rw [henc]; exact slot_bytes_apart _ idx j h
  · exact h
  · trivial

/-- **C05, metadata half**: with the hypotheses of `C05_history_data`, take the METADATA file right after a sync; at every
crash point of the continuation and in every crash image the 4096 bytes of slot `j` are exactly the synced ones — so the
region is recovered with the name, start, length and reservation it had (C17: the slot image decodes to what was encoded) -/
theorem C05_history_slot (s : Db) (r : Ref) (ops : List Op) (hrel : Rel s r) (hinv : RInv s) (hi : InF s) (ha : Al s)
    (hr : NoReopen ops) (hf : FineRun s ops) (j : Nat) (slj : Slot) (hsj : s.slot? j = some slj)
    (hunt : ∀ op ∈ ops, ¬Touches slj.md.id op) (hjr : j < s.rfile.length)
    (enc : Option Meta → List UInt8) (henc : ∀ m, (enc m).length = Gen.SIZE_OF_REGION_METADATA)
    (g : FileD) (hgl : (j + 1) * Gen.SIZE_OF_REGION_METADATA ≤ g.volatile.length)
    (k : Nat) (img : List UInt8)
    (hc : CrashImage ((g.apply .sync).run ((((run s ops).log.drop s.log.length).take k).flatMap (regEv enc))) img) :
    ∀ i, j * Gen.SIZE_OF_REGION_METADATA ≤ i → i < (j + 1) * Gen.SIZE_OF_REGION_METADATA → img[i]? = g.volatile[i]? := by
  obtain ⟨_, ⟨evs, hlog, hav⟩, _⟩ := keep_run s r ops hrel hinv hi ha hr hf j slj hsj hunt hjr
  have hdrop : (run s ops).log.drop s.log.length = evs := by rw [hlog]; exact List.drop_left
  rw [hdrop] at hc
  exact crash_keeps (regEv enc) _ _ evs k (fun e he => avoids_slot j _ _ enc henc e (hav e he)) g hgl img hc

theorem okRun_append (r : Ref) (a b : List Op) (h : OKRun r (a ++ b)) : OKRun r a ∧ OKRun (a.foldl refStep r) b := by
  induction a generalizing r with
  | nil => exact ⟨trivial, h⟩
  | cons op t ih =>
    obtain ⟨h1, h2, h3⟩ := h
    obtain ⟨i1, i2⟩ := ih (refStep r op) h3
    exact ⟨⟨h1, h2, i1⟩, i2⟩

/-- the same from the empty database, with hypotheses on the requests only: `ops₁` is the history up to the flush, `ops₂`
what happens afterwards; both well-formed (`OKRun`), `ops₂` never names the region and has no reopen; reopens anywhere in
`ops₁` (`ReadyRun`: each in a state where every live region has been written at least once) -/
theorem C05_history_all (ops₁ ops₂ : List Op) (hready : ReadyRun Db.init ops₁) (hr2 : NoReopen ops₂) (hok : OKRun [] (ops₁ ++ ops₂))
    (j : Nat) (slj : Slot) (hsj : (run Db.init ops₁).slot? j = some slj) (hunt : ∀ op ∈ ops₂, ¬Touches slj.md.id op)
    (hjr : j < (run Db.init ops₁).rfile.length)
    (f : FileD) (hfl : slj.md.start + slj.md.len ≤ f.volatile.length)
    (hfv : ∀ i, i < f.volatile.length → f.volatile[i]? = (run Db.init ops₁).mem.get? i)
    (k : Nat) (img : List UInt8)
    (hc : CrashImage ((f.apply .sync).run ((((run (run Db.init ops₁) ops₂).log.drop (run Db.init ops₁).log.length).take k).flatMap dataEv)) img) :
    ((run (run Db.init ops₁) ops₂).slot? j).map (·.md) = some slj.md ∧
    ∀ i, i < slj.md.len → img[slj.md.start + i]? = (run Db.init ops₁).mem.get? (slj.md.start + i) := by
  obtain ⟨ok1, ok2⟩ := okRun_append [] ops₁ ops₂ hok
  obtain ⟨_, g⟩ := good_run Db.init [] ops₁ good_init ok1 hready
  have hf2 := (good_run _ _ ops₂ g ok2 (readyRun_of_noReopen _ ops₂ hr2)).1
  obtain ⟨ρ', hrel, _⟩ := g.rel
  exact C05_history_data _ _ ops₂ hrel g.rinv g.inf g.al hr2 hf2 j slj hsj hunt hjr f hfl hfv k img hc

/-- … in particular without any reopen -/
theorem C05_history (ops₁ ops₂ : List Op) (hr1 : NoReopen ops₁) (hr2 : NoReopen ops₂) (hok : OKRun [] (ops₁ ++ ops₂))
    (j : Nat) (slj : Slot) (hsj : (run Db.init ops₁).slot? j = some slj) (hunt : ∀ op ∈ ops₂, ¬Touches slj.md.id op)
    (hjr : j < (run Db.init ops₁).rfile.length)
    (f : FileD) (hfl : slj.md.start + slj.md.len ≤ f.volatile.length)
    (hfv : ∀ i, i < f.volatile.length → f.volatile[i]? = (run Db.init ops₁).mem.get? i)
    (k : Nat) (img : List UInt8)
    (hc : CrashImage ((f.apply .sync).run ((((run (run Db.init ops₁) ops₂).log.drop (run Db.init ops₁).log.length).take k).flatMap dataEv)) img) :
    ((run (run Db.init ops₁) ops₂).slot? j).map (·.md) = some slj.md ∧
    ∀ i, i < slj.md.len → img[slj.md.start + i]? = (run Db.init ops₁).mem.get? (slj.md.start + i) :=
  C05_history_all ops₁ ops₂ (readyRun_of_noReopen _ ops₁ hr1) hr2 hok j slj hsj hunt hjr f hfl hfv k img hc

/-- non-vacuity: the premises hold on a concrete pair of histories — region `a` is flushed; then 50 bytes are appended to region
    `b` (they fit its page: its reservation does not grow and it is not relocated), the database is compacted, a region `c` is
    created and `b` is removed -/
def exOps1 : List Op := [.create [97], .write [97] [1, 2, 3], .create [98], .write [98] [9], .flush]
def exOps2 : List Op := [.write [98] (List.replicate 50 7), .compact, .create [99], .remove [98]]
example : OKRun [] (exOps1 ++ exOps2) := by decide
example : ∀ op ∈ exOps2, ¬Touches [97] op := by
  intro op h
  simp only [exOps2, List.mem_cons, List.not_mem_nil, or_false] at h
  rcases h with rfl | rfl | rfl | rfl <;> simp [Touches]
end AnyDB.C05r
