import AnyDB.Props.C08
import AnyDB.Lemmas.VecMap
/-!
# C08 — `fold_dirty` on raw vectors with deleted and overlaid slots, for every state

`C08_dirty_stored`: the merged iteration of `ReadWriteRawVec::fold_dirty` / `try_fold_dirty` over the stored part
(model: `ReadPaths.dirtyStored`, with the two `fix:` repairs F23/F25) returns, for EVERY disk image, EVERY ascending list of
deleted slots and EVERY ascending overlay at or above the start index — as the B-tree iterators `range(from..)` deliver
them —, exactly the non-deleted elements of `[i, i+n)` in index order, each with its overlay value if it has one
(`dirtySpec`).  This is the clause of C08 about raw vectors with deleted slots; the buffered part behind the stored one
is `C08_rawClean`'s second half.
-/
namespace AnyDB.C08
open VecM ReadPaths

/-- what index `j` shows in the stored part of a raw vector with deleted slots `hs` and overlay `us` -/
def slotOf (disk : List Nat) (hs : List Nat) (us : List (Nat × Nat)) (j : Nat) : Option Nat :=
  if j ∈ hs then none else some ((mapGet us j).getD (disk.getD j garbage))

/-- the reference restricted to `[i, i+n)`: the non-deleted elements in index order -/
def dirtySpec (disk : List Nat) (hs : List Nat) (us : List (Nat × Nat)) (i n : Nat) : List Nat :=
  (List.range n).filterMap (fun k => slotOf disk hs us (i + k))

theorem dirtySpec_succ (disk : List Nat) (hs : List Nat) (us : List (Nat × Nat)) (i n : Nat) :
    dirtySpec disk hs us i (n + 1) = (slotOf disk hs us i).toList ++ dirtySpec disk hs us (i + 1) n := by
  unfold dirtySpec
  rw [List.range_succ_eq_map, List.filterMap_cons, List.filterMap_map]
  have : ((fun k => slotOf disk hs us (i + k)) ∘ Nat.succ) = (fun k => slotOf disk hs us (i + 1 + k)) := by
    funext k; simp only [Function.comp]; congr 1; omega
  rw [this]
  cases slotOf disk hs us i <;> rfl

theorem slotOf_congr (disk : List Nat) (hs hs' : List Nat) (us us' : List (Nat × Nat)) (j : Nat)
    (h1 : j ∈ hs ↔ j ∈ hs') (h2 : mapGet us j = mapGet us' j) : slotOf disk hs us j = slotOf disk hs' us' j := by
  unfold slotOf; rw [h2]
  by_cases h : j ∈ hs
  · rw [if_pos h, if_pos (h1.mp h)]
  · rw [if_neg h, if_neg (fun hh => h (h1.mpr hh))]

theorem filterMap_congr_pointwise {α β : Type} (l : List α) (f g : α → Option β) (h : ∀ x ∈ l, f x = g x) : l.filterMap f = l.filterMap g := by
  induction l with
  | nil => rfl
  | cons a t ih =>
    simp only [List.filterMap_cons, h a (List.mem_cons_self ..)]
    rw [ih (fun x hx => h x (List.mem_cons_of_mem _ hx))]

theorem dirtySpec_congr (disk : List Nat) (hs hs' : List Nat) (us us' : List (Nat × Nat)) (i n : Nat)
    (h1 : ∀ j, i ≤ j → (j ∈ hs ↔ j ∈ hs')) (h2 : ∀ j, i ≤ j → mapGet us j = mapGet us' j) :
    dirtySpec disk hs us i n = dirtySpec disk hs' us' i n := by
  apply filterMap_congr_pointwise
  intro k _
  exact slotOf_congr disk hs hs' us us' (i + k) (h1 _ (by omega)) (h2 _ (by omega))

/-- an iterator that has not fallen behind index `i`: ascending keys, all at or above `i` -/
def Asc {α : Type} (key : α → Nat) (i : Nat) (l : List α) : Prop :=
  l.Pairwise (fun a b => key a < key b) ∧ ∀ a ∈ l, i ≤ key a

/-- the iterator after index `i` was visited: an entry at `i` is consumed -/
def adv {α : Type} (key : α → Nat) (i : Nat) : List α → List α
  | a :: t => if key a = i then t else a :: t
  | [] => []

theorem adv_asc {α : Type} (key : α → Nat) (i : Nat) (l : List α) (h : Asc key i l) : Asc key (i + 1) (adv key i l) := by
  cases l with
  | nil => exact ⟨List.Pairwise.nil, fun _ h => nomatch h⟩
  | cons a t =>
    obtain ⟨hp, hb⟩ := h
    have ha := hb a (List.mem_cons_self ..)
    obtain ⟨h1, h2⟩ := List.pairwise_cons.mp hp
    simp only [adv]
    by_cases hk : key a = i
    · rw [if_pos hk]
      exact ⟨h2, fun b hb' => by have := h1 b hb'; omega⟩
    · rw [if_neg hk]
      refine ⟨hp, fun b hb' => ?_⟩
      rcases List.mem_cons.mp hb' with rfl | hb'
      · omega
      · have := h1 b hb'; omega

theorem asc_key_eq {α : Type} (key : α → Nat) (i : Nat) (l : List α) (h : Asc key i l) (a : α) (ha : a ∈ l) (hk : key a = i) :
    l.head? = some a := by
  cases l with
  | nil => cases ha
  | cons b t =>
    rcases List.mem_cons.mp ha with rfl | ha'
    · rfl
    · have h1 := (List.pairwise_cons.mp h.1).1 a ha'
      have h2 := h.2 b (List.mem_cons_self ..)
      omega

theorem mem_adv {α : Type} (key : α → Nat) (i : Nat) (l : List α) (a : α) (hk : key a ≠ i) : a ∈ adv key i l ↔ a ∈ l := by
  cases l with
  | nil => exact Iff.rfl
  | cons b t =>
    simp only [adv]
    by_cases hb : key b = i
    · rw [if_pos hb]
      exact ⟨List.mem_cons_of_mem _, fun h => (List.mem_cons.mp h).resolve_left (fun e => hk (e ▸ hb))⟩
    · rw [if_neg hb]

theorem mapGet_adv (i j : Nat) (us : List (Nat × Nat)) (hj : j ≠ i) : mapGet (adv (·.1) i us) j = mapGet us j := by
  rcases us with _ | ⟨⟨k, v⟩, t⟩
  · rfl
  · simp only [adv]
    by_cases hk : k = i
    · rw [if_pos hk, C03w.mapGet_cons, if_neg (fun e => hj (e.symm.trans hk))]
    · rw [if_neg hk]

/-- one turn of the merged iteration in one equation, whatever the heads are -/
theorem dirtyStored_succ (disk : List Nat) (i n : Nat) (hs : List Nat) (us : List (Nat × Nat)) :
    dirtyStored disk i (n + 1) hs us =
      (if hs.head? = some i then [] else
        [match us.head? with
         | some (k, v) => if k = i then v else disk.getD i garbage
         | none => disk.getD i garbage]) ++ dirtyStored disk (i + 1) n (adv id i hs) (adv (·.1) i us) := by
  rcases hs with _ | ⟨h, ht⟩
  · rcases us with _ | ⟨⟨k, v⟩, ut⟩
    · simp only [dirtyStored, adv, List.head?_nil, reduceCtorEq, if_false]
      rfl
    · by_cases hk : k = i
      · simp only [dirtyStored, adv, List.head?_nil, List.head?_cons, reduceCtorEq, if_false, hk, if_true]
        rfl
      · simp only [dirtyStored, adv, List.head?_nil, List.head?_cons, reduceCtorEq, if_false, hk]
        rfl
  · by_cases hh : h = i
    · rcases us with _ | ⟨⟨k, v⟩, ut⟩
      · simp only [dirtyStored, adv, List.head?_cons, id, hh, if_true]
        rfl
      · by_cases hk : k = i
        · simp only [dirtyStored, adv, List.head?_cons, id, hh, hk, if_true]
          rfl
        · simp only [dirtyStored, adv, List.head?_cons, id, hh, hk, if_true, if_false]
          rfl
    · have hh' : ¬ some h = some i := fun e => hh (Option.some.inj e)
      rcases us with _ | ⟨⟨k, v⟩, ut⟩
      · simp only [dirtyStored, adv, List.head?_cons, List.head?_nil, id, hh, hh', if_false]
        rfl
      · by_cases hk : k = i
        · simp only [dirtyStored, adv, List.head?_cons, id, hh, hh', hk, if_true, if_false]
          rfl
        · simp only [dirtyStored, adv, List.head?_cons, id, hh, hh', hk, if_false]
          rfl

/-- what the heads of the two iterators say about slot `i` is what the whole lists say -/
theorem slot_head (disk : List Nat) (i : Nat) (hs : List Nat) (us : List (Nat × Nat)) (hh : Asc id i hs) (hu : Asc (·.1) i us) :
    (if hs.head? = some i then [] else
        [match us.head? with
         | some (k, v) => if k = i then v else disk.getD i garbage
         | none => disk.getD i garbage]) = (slotOf disk hs us i).toList := by
  unfold slotOf
  have hmem : hs.head? = some i ↔ i ∈ hs := ⟨List.mem_of_mem_head?, fun h => asc_key_eq id i hs hh i h rfl⟩
  simp only [hmem]
  by_cases hi : i ∈ hs
  · rw [if_pos hi, if_pos hi]
    rfl
  · rw [if_neg hi, if_neg hi]
    rcases us with _ | ⟨⟨k, v⟩, t⟩
    · rfl
    · simp only [List.head?_cons]
      by_cases hk : k = i
      · subst hk
        rw [if_pos rfl, C03w.mapGet_cons, if_pos rfl]
        rfl
      · -- every later key is above `k`, which is above `i`
        rw [if_neg hk, C03w.mapGet_cons, if_neg hk, C03w.mapGet_none_of_not_mem t i (fun kv hkv => by
          have h2 := hu.2 (k, v) (List.mem_cons_self ..)
          have := (List.pairwise_cons.mp hu.1).1 kv hkv
          simp only at this h2
          omega)]
        rfl

theorem C08_dirty_stored (disk : List Nat) (i n : Nat) (hs : List Nat) (us : List (Nat × Nat))
    (hh : hs.Pairwise (· < ·)) (hhi : ∀ h ∈ hs, i ≤ h)
    (hu : (us.map (·.1)).Pairwise (· < ·)) (hui : ∀ kv ∈ us, i ≤ kv.1) :
    dirtyStored disk i n hs us = dirtySpec disk hs us i n := by
  have hH : Asc id i hs := ⟨hh, hhi⟩
  have hU : Asc (·.1) i us := ⟨List.pairwise_map.mp hu, hui⟩
  clear hh hhi hu hui
  induction n generalizing i hs us with
  | zero => rfl
  | succ n ih =>
    rw [dirtyStored_succ, dirtySpec_succ, ih _ _ _ (adv_asc _ _ _ hH) (adv_asc _ _ _ hU), slot_head disk i hs us hH hU]
    congr 1
    exact dirtySpec_congr _ _ _ _ _ _ _ (fun j hj => mem_adv id i hs j (by simp only [id]; omega))
      (fun j hj => mapGet_adv i j us (by omega))

end AnyDB.C08
