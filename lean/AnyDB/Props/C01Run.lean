import AnyDB.Lemmas.RegionFine
import AnyDB.Lemmas.RegionStep

/-!
# C01 — every region reads back exactly its own bytes, for EVERY history (refinement of the rawdb model)

The reference model of the property is `refStep` (`Lemmas/RegionView.lean`): a list of named, independent byte vectors
(`List (Option (RegionId × List UInt8))`, indexed like the region slots).  Each request touches at most the one entry it
names: create adds an empty vector, the three writes splice into one vector (`refWrite`) or are refused beyond its end,
truncate cuts one vector, rename changes one name, remove drops one entry, retain drops the entries not kept; flush,
region flush, compact, file growth change nothing.

`viewAt s idx` is what the model database shows for slot `idx`: the region's name and the bytes a reader sees in
`[start, start+len)` of the mapped file (`none` for a byte beyond the end of the file).

`C01_step` (`rel_step`): from ANY state that shows a reference `r` and satisfies the invariant `RInv` (the layout invariant
of C02 + every region's contents lie inside its reservation and inside the file), every request whose answer is a success
or an API refusal leads to a state that shows `refStep r op` and satisfies `RInv` again.  The four placement paths of
`write_with` (fits / extend the last region / expand into the adjacent hole / relocate with copy) all reduce to one
lemma (`rel_write_generic`): the written window and the copy land inside the region's NEW extent, and the new extent is
apart from every other live region because the layout invariant holds in the state AFTER the operation
(`linv_writeWith` from C02).  Hole punching (`compact`) only hits region tails beyond `start + ceilPage len` and free extents,
both apart from every region's contents (`quiet_punchHoles`).

`C01_history_partial` weakens the hypothesis to what a caller can observe: no request panics and none answers
`RegionSizeOverflow` (a region beyond 2^63 bytes).  Under the invariant every other answer IS a success or an API refusal:
the internal error answers `HoleTooSmall`, `OverlappingCopyRanges`, `RegionIndexMismatch`, `InvariantViolation` cannot
occur (`Lemmas/RegionErrors.lean`: the best-fitting hole is large enough, the copy ranges are apart because the
reservation and the region are apart, the start map answers with the region itself, reservations are positive).

That hypothesis is discharged from conditions on the requests alone, panic-freedom included, in `Props/C01Total.lean`
(`C01_history`); `reopen` after a history is `C01_reopen` there, histories with reopens inside are `Props/C01All.lean`.
-/
namespace AnyDB.C01r
open C02r

/-- every answer of the history is a success or an API refusal -/
def NormalRun (s : Db) : List Op → Prop
  | [] => True
  | op :: t => Normal (step s op).2 ∧ NormalRun (step s op).1 t

/-- no request of the history panics or answers `RegionSizeOverflow` -/
def FineRun (s : Db) : List Op → Prop
  | [] => True
  | op :: t => Fine (step s op).2 ∧ FineRun (step s op).1 t

/-- what the database shows, slot by slot -/
def view (s : Db) : List (Option (RegionId × List (Option UInt8))) := (List.range s.slots.length).map (viewAt s)

def refRun (ops : List Op) : Ref := ops.foldl refStep []

theorem rel_init : Rel Db.init [] ∧ RInv Db.init :=
  ⟨⟨rfl, fun idx => by simp [viewAt, Db.slot?, Db.init]⟩, ⟨linv_init, fun idx sl h => by simp [Db.slot?, Db.init] at h⟩⟩

/-- C01, one step, from any state of the invariant -/
theorem C01_step (s : Db) (r : Ref) (op : Op) (hrel : Rel s r) (hinv : RInv s) (hno : ∀ n, op ≠ .reopen n)
    (hn : Normal (step s op).2) : Rel (step s op).1 (refStep r op) ∧ RInv (step s op).1 :=
  rel_step s r op hrel hinv hno hn

theorem rel_run (s : Db) (r : Ref) (ops : List Op) (hrel : Rel s r) (hinv : RInv s) (hr : NoReopen ops) (hn : NormalRun s ops) :
    Rel (run s ops) (ops.foldl refStep r) ∧ RInv (run s ops) := by
  induction ops generalizing s r with
  | nil => exact ⟨hrel, hinv⟩
  | cons op t ih =>
    obtain ⟨h1, h2⟩ := rel_step s r op hrel hinv (hr op (List.mem_cons_self ..)) hn.1
    have : run s (op :: t) = run (step s op).1 t := rfl
    rw [this, List.foldl_cons]
    exact ih _ _ h1 h2 (fun o ho => hr o (List.mem_cons_of_mem _ ho)) hn.2

theorem view_of_rel (s : Db) (r : Ref) (h : Rel s r) : view s = r.map (Option.map liftE) := by
  apply List.ext_getElem?
  intro j
  unfold view
  rw [List.getElem?_map, List.getElem?_map]
  by_cases hj : j < s.slots.length
  · have hj' : j < r.length := by rw [h.1]; exact hj
    have hrange : (List.range s.slots.length)[j]? = some j := by simp [hj]
    rw [hrange, List.getElem?_eq_getElem hj']
    simp only [Option.map_some]
    have := h.2 j
    rw [List.getElem?_eq_getElem hj'] at this
    rw [this]; rfl
  · rw [List.getElem?_eq_none (by simp; omega), List.getElem?_eq_none (by rw [h.1]; omega)]; rfl

/-- C01 for every history without `reopen` whose answers are successes or API refusals:
the database shows exactly the reference — names, lengths, bytes, all inside the file -/
theorem C01_run_partial (ops : List Op) (hr : NoReopen ops) (hn : NormalRun Db.init ops) :
    view (run Db.init ops) = (refRun ops).map (Option.map liftE) :=
  view_of_rel _ _ (rel_run Db.init [] ops rel_init.1 rel_init.2 hr hn).1

/-- … and the model state keeps the invariant (extents disjoint, contents inside reservation and file) -/
theorem C01_run_inv (ops : List Op) (hr : NoReopen ops) (hn : NormalRun Db.init ops) : RInv (run Db.init ops) :=
  (rel_run Db.init [] ops rel_init.1 rel_init.2 hr hn).2

theorem noPanic_of_fine (s : Db) (ops : List Op) (hf : FineRun s ops) : NoPanic s ops := by
  induction ops generalizing s with
  | nil => trivial
  | cons op t ih => exact ⟨hf.1.1, ih _ hf.2⟩

/-- one request that neither panics nor answers `RegionSizeOverflow`, from a state that shows `r` under the invariants: under them
such an answer is a success or an API refusal (`normal_of_fine`), so the next state shows `refStep r op`, under the invariants again -/
theorem fine_next (s : Db) (r : Ref) (op : Op) (hrel : Rel s r) (hinv : RInv s) (hi : InF s) (hno : ∀ n, op ≠ .reopen n)
    (hf : Fine (step s op).2) :
    Normal (step s op).2 ∧ Rel (step s op).1 (refStep r op) ∧ RInv (step s op).1 ∧ InF (step s op).1 :=
  have hn := normal_of_fine s op hinv hi hno hf
  have h := rel_step s r op hrel hinv hno hn
  ⟨hn, h.1, h.2, inf_step s op hinv.lay hi hno⟩

theorem fine_run (s : Db) (r : Ref) (ops : List Op) (hrel : Rel s r) (hinv : RInv s) (hi : InF s) (hr : NoReopen ops)
    (hf : FineRun s ops) :
    NormalRun s ops ∧ Rel (run s ops) (ops.foldl refStep r) ∧ RInv (run s ops) ∧ InF (run s ops) := by
  induction ops generalizing s r with
  | nil => exact ⟨trivial, hrel, hinv, hi⟩
  | cons op t ih =>
    obtain ⟨hn, h1, h2, h3⟩ := fine_next s r op hrel hinv hi (hr op (List.mem_cons_self ..)) hf.1
    obtain ⟨i1, i2⟩ := ih _ _ h1 h2 h3 (fun o ho => hr o (List.mem_cons_of_mem _ ho)) hf.2
    exact ⟨⟨hn, i1⟩, i2⟩

/-- C01 for every history without `reopen` in which no request panics or answers `RegionSizeOverflow`:
the database shows exactly the reference byte vectors, and no internal error answer occurs on the way -/
theorem C01_history_partial (ops : List Op) (hr : NoReopen ops) (hf : FineRun Db.init ops) :
    view (run Db.init ops) = (refRun ops).map (Option.map liftE) ∧ NormalRun Db.init ops ∧ RInv (run Db.init ops) := by
  obtain ⟨hn, hrel, hinv, _⟩ := fine_run Db.init [] ops rel_init.1 rel_init.2 inf_init hr hf
  exact ⟨view_of_rel _ _ hrel, hn, hinv⟩

/-- isolation in the reference: a request that names region `id` changes no other entry -/
theorem C01_isolated (r : Ref) (op : Op) (id : RegionId) (i j : Nat) (h : refFind r id = some i) (hj : j ≠ i)
    (hop : (∃ d, op = .write id d) ∨ (∃ a d, op = .writeAt id a d) ∨ (∃ a d, op = .truncateWrite id a d) ∨
      (∃ n, op = .truncate id n) ∨ (∃ n, op = .rename id n) ∨ op = .remove id) :
    (refStep r op)[j]? = r[j]? := by
  rcases hop with ⟨d, rfl⟩ | ⟨a, d, rfl⟩ | ⟨a, d, rfl⟩ | ⟨n, rfl⟩ | ⟨n, rfl⟩ | rfl <;> simp only [refStep]
  · exact refOn_other r id _ i j h hj
  · exact refOn_other r id _ i j h hj
  · exact refOn_other r id _ i j h hj
  · exact refOn_other r id _ i j h hj
  · split
    · rfl
    · exact refOn_other r id _ i j h hj
  · exact refOn_other r id _ i j h hj

instance : DecidablePred Normal := fun o => by
  cases o <;> unfold Normal <;> infer_instance

instance decNormalRun : (s : Db) → (ops : List Op) → Decidable (NormalRun s ops)
  | _, [] => isTrue trivial
  | s, op :: t => by
    unfold NormalRun
    exact @instDecidableAnd _ _ _ (decNormalRun (step s op).1 t)

-- non-vacuity: a history from the empty database (creation, rename, removal, flush, reuse) meets the hypotheses
example : NormalRun Db.init [Op.create [97], .create [98], .rename [97] [99], .remove [98], .flush, .create [100], .truncate [99] 0] ∧
    refRun [Op.create [97], .create [98], .rename [97] [99], .remove [98], .flush, .create [100], .truncate [99] 0]
      = [some ([99], []), some ([100], [])] := by
  refine ⟨by decide, by decide⟩

end AnyDB.C01r
