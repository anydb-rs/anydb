import AnyDB.Props.C06

/-!
# C19 — computed columns are recomputed exactly when input versions change

Model: `computeInit` (= `validate_computed_version_or_reset` ∘ `truncate_if_needed`) followed by `runBatches`
(`repeat_until_complete`) of `AnyDB/Model/Compute.lean`.  The indices the user closure is invoked on are DEFINED here, not
derived from a run of the model: `evalRange versionChanged maxFrom oldLen target` is `[kept, target)`, `kept` the length of
what `computeInit` leaves of `oldLen` stored elements.  `C19_changed` (version differs: nothing of the old results is left,
all of `[0, target)` is evaluated) and `C19_unchanged` (version equal: the first `maxFrom` stored elements are kept verbatim,
evaluation starts at `min maxFrom oldLen`) only unfold the two definitions.  `C19_never_mixed`: whatever was stored under
another version, after `computeInit` with a changed version and `runBatches` the result is the formula of the CURRENT
sources only (accumulator families, via `C06_run_correct`).

Tied to the code by the `--c19` stream of the compute engine: the closure handed to `compute_to` / `compute_transform`
logs the indices it is called with, and the engine compares the log with `[lo, len)`, `lo = 0` after a version change and
`min max_from stored` otherwise, which it computes itself (`evalRange` is not run); the recorded version is read back from
the header before/after each call and across write + re-import.
-/
namespace AnyDB.C19
open AnyDB Compute C06

/-- indices the closure is evaluated on -/
def evalRange (versionChanged : Bool) (maxFrom oldLen target : Nat) : List Nat :=
  let kept := (computeInit versionChanged maxFrom (List.replicate oldLen 0)).length
  (List.range target).drop kept

theorem computeInit_length (vc : Bool) (maxFrom : Nat) (old : List Nat) :
    (computeInit vc maxFrom old).length = if vc then 0 else min maxFrom old.length := by
  unfold computeInit; cases vc <;> simp

theorem C19_changed (maxFrom oldLen target : Nat) (old : List Nat) :
    computeInit true maxFrom old = [] ∧ evalRange true maxFrom oldLen target = List.range target := by
  unfold evalRange
  simp [computeInit]

theorem C19_unchanged (maxFrom target : Nat) (old : List Nat) :
    computeInit false maxFrom old = old.take maxFrom ∧
    evalRange false maxFrom old.length target = (List.range target).drop (min maxFrom old.length) := by
  unfold evalRange
  simp [computeInit]

theorem C19_never_mixed (f : Nat → Nat → Nat) (init cap : Nat) (hcap : 0 < cap) (stale new : List Nat) (maxFrom : Nat) :
    runBatches (batchScan f init cap new) (new.length + 1) (computeInit true maxFrom stale) = scanF f init new := by
  have := C06_run_correct f init cap hcap new (new.length + 1) 0 (Nat.zero_le _) (Nat.lt_succ_self _)
  rwa [List.take_zero, ← (C19_changed maxFrom 0 0 stale).1] at this

example : evalRange false 3 5 8 = [3, 4, 5, 6, 7] ∧ evalRange true 3 5 8 = [0, 1, 2, 3, 4, 5, 6, 7] ∧ evalRange false 9 5 8 = [5, 6, 7] := by
  decide

end AnyDB.C19
