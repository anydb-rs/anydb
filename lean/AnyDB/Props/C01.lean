import AnyDB.Lemmas.RawdbSteps

/-!
# C01 — every region reads back exactly its own bytes, across any history

Model: `AnyDB/Model/Rawdb.lean` (`write_with` with its four placement paths, `truncate`, `rename`,
`remove`, `flush`, `compact`, `reopen`) over the byte image `Mem`.

The reference model of the property — one independent byte vector per region name — lives in the
harness (`rawdb_engine.rs`: the field `RawEngine.refdb`) *and* is what the theorems below describe per placement path:

* `C01_bytes_write`       — any `Database::write` (every path ends in one): the bytes written read
                            back, every other byte of the file is unchanged (frame);
* `C01_fits_refines`      — path 1 (new length fits the reserve): region `idx` now reads
                            `old[0,wo) ++ data ++ old[wo+|data|, …)` and its length is the new one;
* `C01_fits_isolated`     — … and no other slot's metadata and no byte outside
                            `[start+wo, start+wo+|data|)` changes — hence no other region changes;
* `C01_copy_preserves`    — the relocation copy (`Database::copy`) reproduces the `copyLen` source
                            bytes at the destination and changes nothing outside the destination;
* `C01_grow_preserves`    — growing the file (`set_min_len`) changes no existing byte;
* `C01_punch_outside`     — hole punching (`compact`) changes no byte outside the punched range;
* `C01_truncate_meta` / `C01_rename_meta` — truncate and rename never touch the data bytes, and no
                            slot but the one addressed.
* `C01_refusals_pure`     — a refused write leaves the whole state untouched (from C13).

The composition over whole histories — the refinement to the reference byte vectors — is `Props/C01Run.lean`
(`C01_step`, `C01_run_partial`), over the layout invariant of C02.
-/
namespace AnyDB.C01
open Mem

theorem C01_bytes_write (s s' : Db) (off : Nat) (d : List UInt8) (h : s.dataWrite off d = some s') :
    s'.mem.read off d.length = d.map some ∧
    (∀ o l, (o + l ≤ off ∨ off + d.length ≤ o) → s'.mem.read o l = s.mem.read o l) ∧
    s'.mem.size = s.mem.size ∧ s'.slots = s.slots ∧ s'.regions = s.regions ∧ s'.holes = s.holes := by
  obtain ⟨m, hw, rfl⟩ := Db.dataWrite_eq_some h
  exact ⟨read_writeAt_same hw, fun o l hd => read_writeAt_frame hw o l hd, size_writeAt hw, rfl, rfl, rfl⟩

theorem C01_fits_refines (s : Db) (idx : Nat) (sl : Slot) (d : List UInt8) (wo nl : Nat)
    (hidx : idx < s.slots.length)
    (hok : (s.writeFits idx sl d wo nl).2 = .ok) :
    let s' := (s.writeFits idx sl d wo nl).1
    (∀ i, s'.mem.get? (sl.md.start + i) =
        if wo ≤ i ∧ i < wo + d.length then d[i - wo]? else s.mem.get? (sl.md.start + i)) ∧
    (s'.slot? idx).map (·.md) = some { sl.md with len := nl } := by
  obtain ⟨m, X, R, L, hm, hX, e⟩ := Db.writeFits_ok (pair_of_snd hok)
  rw [e]
  refine ⟨fun i => ?_, by rw [Db.slot?_set_self rfl hidx, Option.map_some, hX]⟩
  show m.get? (sl.md.start + i) = _
  rw [get?_writeAt hm]
  by_cases hc : wo ≤ i ∧ i < wo + d.length
  · rw [if_pos hc, if_pos (by omega)]; congr 1; omega
  · rw [if_neg hc, if_neg (by omega)]

theorem C01_fits_isolated (s : Db) (idx : Nat) (sl : Slot) (d : List UInt8) (wo nl : Nat)
    (hok : (s.writeFits idx sl d wo nl).2 = .ok) :
    let s' := (s.writeFits idx sl d wo nl).1
    (∀ j, j ≠ idx → s'.slot? j = s.slot? j) ∧
    (∀ o l, (o + l ≤ sl.md.start + wo ∨ sl.md.start + wo + d.length ≤ o) → s'.mem.read o l = s.mem.read o l) ∧
    s'.regions = s.regions ∧ s'.holes = s.holes ∧ s'.pending = s.pending ∧ s'.fileLen = s.fileLen := by
  obtain ⟨m, X, R, L, hm, _, e⟩ := Db.writeFits_ok (pair_of_snd hok)
  rw [e]
  exact ⟨fun j hj => Db.slot?_set_ne rfl hj, fun o l hd => read_writeAt_frame hm o l hd, rfl, rfl, rfl, rfl⟩

theorem C01_copy_preserves (s s' : Db) (src dst len : Nat) (h : s.dataCopy src dst len = .ok s')
    (hin : src + len ≤ s.mem.size) :
    (∀ i, i < len → s'.mem.get? (dst + i) = s.mem.get? (src + i)) ∧
    (∀ o l, (o + l ≤ dst ∨ dst + len ≤ o) → s'.mem.read o l = s.mem.read o l) := by
  rcases Db.dataCopy_ok h with ⟨h0, rfl⟩ | ⟨_, _, hw⟩
  · exact ⟨fun i hi => by omega, fun _ _ _ => rfl⟩
  · obtain ⟨m, hm, rfl⟩ := Db.dataWrite_eq_some hw
    have hsl := length_slice s.mem src len hin
    refine ⟨fun i hi => ?_, fun o l hd => read_writeAt_frame hm o l (by rw [hsl]; exact hd)⟩
    rw [get?_writeAt hm, hsl, if_pos (by omega), Nat.add_sub_cancel_left]
    exact slice_getElem? s.mem src len i hi hin

theorem C01_grow_preserves (s : Db) (n o l : Nat) (h : o + l ≤ s.mem.size) :
    (s.setMinLen n).mem.read o l = s.mem.read o l := by
  rcases Db.setMinLen_eq s n with ⟨_, e⟩ | ⟨k, _, _, e⟩
  · rw [e]
  · rw [e]; exact read_grow _ _ _ _ h

theorem C01_punch_outside (m : Mem) (off len o l : Nat) (hd : o + l ≤ off ∨ off + len ≤ o) :
    (m.punch off len).read o l = m.read o l := read_punch_frame m off len o l hd

theorem C01_truncate_meta (s : Db) (idx n : Nat) :
    (s.truncate idx n).1.mem = s.mem ∧ (∀ j, j ≠ idx → (s.truncate idx n).1.slot? j = s.slot? j) :=
  Db.truncate_state (P := fun t => t.mem = s.mem ∧ ∀ j, j ≠ idx → t.slot? j = s.slot? j) s idx n ⟨rfl, fun _ _ => rfl⟩
    fun sl _ _ => by rw [Db.writeIfDirty_eq]; exact ⟨rfl, fun j hj => Db.slot?_set_ne rfl hj⟩

theorem C01_rename_meta (s : Db) (idx : Nat) (nid : RegionId) :
    (s.rename idx nid).1.mem = s.mem ∧ (∀ j, j ≠ idx → (s.rename idx nid).1.slot? j = s.slot? j) :=
  Db.rename_state (P := fun t => t.mem = s.mem ∧ ∀ j, j ≠ idx → t.slot? j = s.slot? j) s idx nid ⟨rfl, fun _ _ => rfl⟩
    fun sl _ _ => by rw [Db.writeIfDirty_eq]; exact ⟨rfl, fun j hj => Db.slot?_set_ne rfl hj⟩

theorem C01_refusals_pure (s : Db) (idx : Nat) (d : List UInt8) (a : Option Nat) (t : Bool) :
    (s.writeWith idx d a t).2 = .err .writeOutOfBounds → (s.writeWith idx d a t).1 = s :=
  Db.writeWith_oob_unchanged s idx d a t

/-- non-vacuity: a positional overwrite in the middle of a 5-byte region of a 16-byte file -/
example :
    let sl : Slot := { md := { start := 0, len := 5, reserved := 8, id := [97] }, st := MState.clean, dmin := USIZE_MAX, dmax := 0 }
    let s : Db := { fileLen := 16, mem := ⟨#[1,2,3,4,5,0,0,0,9,9,9,9,9,9,9,9]⟩, slots := [some sl], rfile := [none],
                    regions := [(0, 0)], holes := [], reserved := [], pending := [], log := [] }
    (s.writeFits 0 sl [7, 7] 2 5).2 = .ok ∧
    ((s.writeFits 0 sl [7, 7] 2 5).1.mem.read 0 8) = [some 1, some 2, some 7, some 7, some 5, some 0, some 0, some 0] := by
  decide

end AnyDB.C01
