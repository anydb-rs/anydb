import AnyDB.Props.C03

/-!
# C20 — reads on behalf of a vector never touch bytes outside its region's valid data

Model: `AnyDB/Model/Vec.lean`.  Every element fetch from the data region of a raw vector goes through
`V.diskRead i`, which reports `true` exactly when slot `i` lies at or beyond the end of the region
(`disk.length`); the compressed formats fetch whole page slices `[page.start, page.stop)`.

* read-only clones, `VecReader` and the stored mmap / file-IO sources address `min storedLen disk.length`
  elements: **no state at all** lets them leave the region (`C20_cloneGet`, `C20_cloneRange`,
  `C20_cloneReads`); `C20_unclamped_counterexample` shows on the F6 state (a rolled-back truncation:
  stored length 8, 3 elements in the region) that the clamp is what makes this true;
* the read-write vector answers from its overlay first.  `Covered s` — every slot between the end of
  the region and the stored length is deleted or overlaid — is the invariant under which all its
  read paths stay inside (`C20_getAny`, `C20_items_raw`, `C20_take`); it holds whenever the stored
  length does not exceed the region (`covered_of_le`, in particular after every successful `write`:
  `C20_writeRaw_le`, `C20_after_write`), and every plain edit preserves it (`covered_push`, `covered_truncate`,
  `covered_update`, `covered_delete`, `covered_take`, `covered_fill`);
* compressed (Props/C20Comp.lean): in a gap-free page chain starting at the header every page slice lies between the
  header and the end of the chain (`C20_pages`); that the pages of every reachable state form such a chain
  inside the data region is the invariant `CSync`: `C20_comp_history`.

That `rollback` re-establishes `Covered` (through the truncated values of the change record) is
`C20_undo_covered`, Props/C20Undo.lean.  Tie to the code: the guarded access tap
reports every `Reader::unchecked_read`, every pointer handed out by `Reader::prefixed`, every raw
pointer dereference of the read sites and every positioned file read; after each request the engine
compares them with the owning region's start and length.
-/
namespace AnyDB.C20
open VecM VecM.V C03

theorem C20_cloneGet (s : V) (i : Nat) : (s.cloneGet i).2 = false := by
  unfold cloneGet
  split
  · rename_i h
    exact diskRead_in s i (by unfold addressable at h; omega)
  · rfl

theorem C20_cloneRange (s : V) (from_ to : Nat) : (s.cloneRange from_ to).2 = false := by
  unfold cloneRange
  rw [foldl_collect _ _ (fun k => (s.diskRead (min from_ s.addressable + k)).1)
    (fun k => (s.diskRead (min from_ s.addressable + k)).2) (fun _ _ => rfl)]
  simp only [Bool.false_or, List.any_eq_false, List.mem_range]
  intro k hk
  have hin : min to s.addressable ≤ s.disk.length := Nat.le_trans (Nat.min_le_right ..) (Nat.min_le_right ..)
  rw [diskRead_in s _ (Nat.lt_of_lt_of_le (Nat.add_lt_of_lt_sub' hk) hin)]
  exact Bool.false_ne_true

theorem C20_cloneReads (s : V) : s.cloneReadsOob = false := by
  unfold cloneReadsOob
  split
  · exact C20_cloneRange s 0 _
  · rfl

/-- the state of finding F6: 8 elements committed, truncated to 3 and committed, rolled back — the stored
length is 8 again, the region holds 3 elements, the 5 restored ones live in the overlay -/
def exF6 : V :=
  { V.init .raw 8 3 with disk := [10, 11, 12], storedLen := 8, prevStoredLen := 8, stamp := 1, updated := [(3, 13), (4, 14), (5, 15), (6, 16), (7, 17)], prevUpdated := [(3, 13), (4, 14), (5, 15), (6, 16), (7, 17)] }

/-- without the clamp (`addressable := storedLen`) a clone's read of slot 5 leaves the region -/
theorem C20_unclamped_counterexample : 5 < exF6.storedLen ∧ (exF6.diskRead 5).2 = true ∧ (exF6.cloneGet 5) = (none, false) := by
  decide

/-- every slot between the end of the region and the stored length is deleted or overlaid -/
def Covered (s : V) : Prop :=
  ∀ i, s.disk.length ≤ i → i < s.storedLen → i ∈ s.holes ∨ (mapGet s.updated i).isSome = true

theorem covered_of_le (s : V) (h : s.storedLen ≤ s.disk.length) : Covered s := by
  intro i h1 h2; omega

theorem C20_getAny (s : V) (h : Covered s) (i : Nat) : (s.getAny i).2 = false := by
  cases hg : (s.getAny i).2 with
  | false => rfl
  | true =>
    obtain ⟨h1, h2, h3, h4⟩ := (getAny_snd s i).mp hg
    rcases h i h4 h2 with h5 | h5
    · exact absurd h5 h1
    · rw [h3] at h5
      cases h5

theorem C20_items_raw (s : V) (hk : s.kind = .raw) (h : Covered s) : s.items.2 = false := by
  rw [items_raw s hk]
  simp only [List.any_eq_false]
  intro i _
  rw [C20_getAny s h i]
  exact Bool.false_ne_true

theorem C20_take (s : V) (h : Covered s) (i : Nat) : (s.takeAt i).1.oob = s.oob := by
  rw [takeAt_eq]
  show (s.oob || (s.getAny i).2) = s.oob
  rw [C20_getAny s h i, Bool.or_false]

example : Covered exF6 := by
  intro i h1 h2
  have : i = 3 ∨ i = 4 ∨ i = 5 ∨ i = 6 ∨ i = 7 := by
    simp [exF6, V.init] at h1 h2; omega
  rcases this with rfl | rfl | rfl | rfl | rfl <;> (right; decide)

theorem covered_push (s : V) (v : Nat) (h : Covered s) : Covered (s.push v) := h

theorem covered_truncate (s : V) (n : Nat) (hk : s.kind = .raw) (h : Covered s) : Covered (s.truncate n) := by
  rw [truncate_raw s n hk]
  intro i h1 h2
  have hn : i < n := Nat.lt_of_lt_of_le h2 (Nat.min_le_left ..)
  show i ∈ s.holes.filter (· < n) ∨ (mapGet (s.updated.filter (fun kv => decide (kv.1 < n))) i).isSome = true
  rw [mapGet_filter_lt, if_pos hn, List.mem_filter]
  rcases h i h1 (Nat.lt_of_lt_of_le h2 (Nat.min_le_right ..)) with h3 | h3
  · exact Or.inl ⟨h3, decide_eq_true hn⟩
  · exact Or.inr h3

/-- `Covered` slot by slot: an accepted `update_at i` covers slot `i` itself and keeps every other covered slot covered -/
theorem covered_update_at (s : V) (i v : Nat) (hi : i < s.len)
    (h : ∀ j, j ≠ i → s.disk.length ≤ j → j < s.storedLen → j ∈ s.holes ∨ (mapGet s.updated j).isSome = true) :
    Covered (s.updateAt i v).1 := by
  by_cases hs : s.storedLen ≤ i
  · rw [updateAt_pushed s i v hs hi]
    intro j h1 h2
    have hj : j ≠ i := Nat.ne_of_lt (Nat.lt_of_lt_of_le h2 hs)
    rcases h j hj h1 h2 with h3 | h3
    · exact Or.inl ((mem_filter_ne _ _ _ hj).mpr h3)
    · exact Or.inr h3
  · rw [updateAt_stored s i v (Nat.lt_of_not_le hs)]
    intro j h1 h2
    rw [mapGet_mapInsert]
    by_cases hj : i = j
    · rw [if_pos hj]
      exact Or.inr rfl
    · rw [if_neg hj]
      rcases h j (fun e => hj e.symm) h1 h2 with h3 | h3
      · exact Or.inl ((mem_filter_ne _ _ _ (fun e => hj e.symm)).mpr h3)
      · exact Or.inr h3

theorem covered_update (s : V) (i v : Nat) (h : Covered s) : Covered (s.updateAt i v).1 := by
  by_cases hi : i < s.len
  · exact covered_update_at s i v hi (fun j _ => h j)
  · rw [updateAt_refused s i v hi]
    exact h

theorem covered_uncheckedDelete (s : V) (i : Nat) (h : Covered s) : Covered (s.uncheckedDeleteAt i) := by
  intro j h1 h2
  show j ∈ setInsert s.holes i ∨ (mapGet (mapErase s.updated i) j).isSome = true
  rw [mem_setInsert, mapGet_mapErase]
  by_cases hj : j = i
  · exact Or.inl (Or.inr hj)
  · rw [if_neg hj]
    rcases h j h1 h2 with h3 | h3
    · exact Or.inl (Or.inl h3)
    · exact Or.inr h3

theorem covered_delete (s : V) (i : Nat) (h : Covered s) : Covered (s.deleteAt i) :=
  deleteAt_state s i h (fun _ => covered_uncheckedDelete s i h)

theorem covered_take (s : V) (i : Nat) (h : Covered s) : Covered (s.takeAt i).1 := by
  rw [takeAt_eq]
  cases (s.getAny i).1.isSome
  · exact h
  · exact covered_uncheckedDelete { s with oob := s.oob || (s.getAny i).2 } i h

theorem covered_fill (s : V) (v : Nat) (h : Covered s) (hb : HolesBelowLen s) : Covered (s.fillFirstHoleOrPush v).1 := by
  cases hh : s.holes with
  | nil =>
    rw [fillFirstHoleOrPush_nil s v hh]
    exact h
  | cons hd rest =>
    have hi : hd < s.len := hb hd (by rw [hh]; exact List.mem_cons_self ..)
    rw [fillFirstHoleOrPush_cons s v hd rest hh hi]
    -- the first deleted slot is the one slot that `update_at` covers anew
    exact covered_update_at _ hd v hi (fun j hj h1 h2 => by
      rcases h j h1 h2 with h3 | h3
      · rw [hh] at h3
        exact Or.inl ((List.mem_cons.mp h3).resolve_left hj)
      · exact Or.inr h3)

theorem hdr_fields (s : V) : s.writeHeaderIfNeeded.storedLen = s.storedLen ∧ s.writeHeaderIfNeeded.disk = s.disk := by
  obtain ⟨_, _, e⟩ := writeHeaderIfNeeded_frame s
  rw [e]; exact ⟨rfl, rfl⟩

/-- every successful raw `write()` — from ANY state, expanded ones included — ends with the stored length
inside the region: afterwards no read path of the vector or of its clones can leave it -/
theorem C20_writeRaw_le (s : V) (b : Bool) (h : s.writeRaw.2 = .okB b) :
    s.writeRaw.1.storedLen ≤ s.writeRaw.1.disk.length := by
  unfold writeRaw at h ⊢
  simp only [] at h ⊢
  generalize s.writeHeaderIfNeeded = t at *
  -- `split` on the guard is dearer to check
  by_cases hc : (!decide (t.storedLen < t.disk.length) && !decide (t.storedLen > t.disk.length) && !(!t.pushed.isEmpty)
      && !(!t.updated.isEmpty) && !(!t.holes.isEmpty) && !t.hasStoredHoles) = true
  · -- nothing to do: in particular the stored length is not beyond the region
    rw [if_pos hc]
    simp only [Bool.and_eq_true, Bool.not_eq_eq_eq_not, Bool.not_true, decide_eq_false_iff_not] at hc
    exact Nat.le_of_not_lt hc.1.1.1.1.2
  · rw [if_neg hc] at h ⊢
    cases h1 : t.wrExtend.wrData (decide (t.storedLen < t.disk.length)) with
    | error e =>
      rw [h1] at h
      cases h
    | ok s1 =>
      have e1 := wrData_stored t s1 h1
      simp only []
      cases h2 : s1.wrOverlay (decide (t.storedLen > t.disk.length)) with
      | error o =>
        -- `h` cannot close this branch: the error of the overlay stage is an `Out`, and the types do not exclude `.okB`;
        -- the bound is proved of the state returned with it instead
        exact Nat.le_of_eq e1
      | ok s2 =>
        obtain ⟨g1, g2⟩ := wrOverlay_grows s1 s2 _ h2
        obtain ⟨f1, f2⟩ := wrHoles_fields s2 (!t.holes.isEmpty) t.hasStoredHoles
        rw [f1, f2, g2, e1]
        exact g1

theorem C20_after_write (s : V) (b : Bool) (hk : s.kind = .raw) (h : (s.write []).2 = .okB b) : Covered (s.write []).1 := by
  rw [write_raw s [] hk] at h ⊢
  exact covered_of_le _ (C20_writeRaw_le s b h)

end AnyDB.C20
