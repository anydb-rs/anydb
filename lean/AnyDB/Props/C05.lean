import AnyDB.Model.Durable
import AnyDB.Generated.Orders

/-!
# C05 — a crash never damages untouched flushed regions or the file layout

Model: `AnyDB/Model/Durable.lean` — one file seen through a shared mapping, with the adversary of
the property made STRONGER: after a crash every page stored to since the last sync may hold ANY
content, every other page holds exactly its content as of the last sync.

* `C05_sync_exact`     — right after a sync there is exactly one crash image: the file as it is;
* `C05_untouched`      — the core of the property: take the file right after a sync; let ANY sequence of
                          later events happen (stores, hole punches, further syncs, file growth) none of
                          which stores into the pages of `[a, b)`; then in EVERY crash image the bytes of
                          `[a, b)` are exactly the synced ones — at every crash point (the statement is for
                          every prefix, since every prefix again satisfies the hypothesis);
* `C05_slot_atomic`    — a metadata slot is one page: a slot no later event stores into is byte-identical
                          in every crash image (so it decodes to the same region — C17);
* `C05_order`          — on the call orders extracted from `Database::flush`: the data file is synced before
                          the metadata file, and freed extents are promoted (made reusable / punchable) only
                          after a metadata sync — on the main path AND on the no-dirty-region path (the
                          second was missing in the pinned tree: finding F10, repaired by a `fix:` commit).

What reduces C05 to these theorems: an untouched flushed region's extent is never stored into by
later operations (C01 isolation + C02 disjointness: the allocator hands out only extents that are
free, and a freed extent becomes free only after the sync that made its release durable —
`C05_order`).  `Props/C05History.lean` proves that reduction on the rawdb model for a region no later request names.
Validated, not proved: that the whole metadata file decodes to a disjoint layout after a crash (the ordering argument behind
`C05_order`, for the slots that were rewritten) and what holds of modified regions; the crash engine replays the real event
stream of generated histories, builds sync-only / all-written / single-page-deviation / random-mixture crash images at EVERY
event boundary after the first flush and runs the real `Database::open` on each.
-/
namespace AnyDB.C05
open AnyDB Durable Gen

theorem getElem?_writeList (l : List UInt8) (off : Nat) (d : List UInt8) (i : Nat)
    (h : i < off ∨ off + d.length ≤ i) : (writeList l off d)[i]? = l[i]? := by
  unfold writeList
  rw [List.getElem?_mapIdx]
  have : ¬ (off ≤ i ∧ i < off + d.length) := by omega
  cases l[i]? <;> simp [this]

theorem length_writeList (l : List UInt8) (off : Nat) (d : List UInt8) : (writeList l off d).length = l.length := by
  unfold writeList; simp

theorem getElem?_resize (l : List UInt8) (n i : Nat) (hi : i < n) (hl : i < l.length) : (resize l n)[i]? = l[i]? := by
  unfold resize
  rw [List.getElem?_append_left (by simp; omega), List.getElem?_take]
  simp [hi]

theorem length_resize (l : List UInt8) (n : Nat) : (resize l n).length = n := by
  unfold resize
  rw [List.length_append, List.length_take, List.length_replicate]
  rcases Nat.le_total n l.length with h | h
  · rw [Nat.min_eq_left h, Nat.sub_eq_zero_of_le h]
    rfl
  · rw [Nat.min_eq_right h, Nat.add_sub_cancel' h]

theorem pageSize_pos : 0 < PAGE_SIZE := Nat.zero_lt_succ _

theorem mem_pagesOf_iff (off len p : Nat) :
    p ∈ pagesOf off len ↔ len ≠ 0 ∧ off / PAGE_SIZE ≤ p ∧ p ≤ (off + len - 1) / PAGE_SIZE := by
  unfold pagesOf
  by_cases hl : len = 0
  · rw [if_pos hl]
    exact ⟨fun h => (nomatch h), fun h => absurd hl h.1⟩
  · rw [if_neg hl, List.mem_map]
    constructor
    · rintro ⟨k, hk, rfl⟩
      exact ⟨hl, Nat.le_add_left _ _, Nat.le_of_lt_succ (Nat.add_lt_of_lt_sub (List.mem_range.mp hk))⟩
    · rintro ⟨_, h1, h2⟩
      exact ⟨p - off / PAGE_SIZE, List.mem_range.mpr (Nat.sub_lt_sub_right h1 (Nat.lt_succ_of_le h2)),
        Nat.sub_add_cancel h1⟩

theorem mem_pagesOf (off len i : Nat) (h1 : off ≤ i) (h2 : i < off + len) : i / PAGE_SIZE ∈ pagesOf off len := by
  refine (mem_pagesOf_iff off len _).mpr ⟨fun hl => ?_, Nat.div_le_div_right h1, Nat.div_le_div_right (Nat.le_sub_one_of_lt h2)⟩
  subst hl
  exact Nat.lt_irrefl _ (Nat.lt_of_le_of_lt h1 h2)

/-- the page of a byte of `[a, b)` fails the test that `Ev.avoids a b` puts to the pages of a store -/
theorem page_in_range (a b i : Nat) (h1 : a ≤ i) (h2 : i < b) :
    ¬ (i / PAGE_SIZE < a / PAGE_SIZE ∨ (b + PAGE_SIZE - 1) / PAGE_SIZE ≤ i / PAGE_SIZE) := by
  rintro (h | h)
  · exact Nat.lt_irrefl _ (Nat.lt_of_lt_of_le h (Nat.div_le_div_right h1))
  · -- `i + PAGE_SIZE` lies one page further and still at or below `b + PAGE_SIZE - 1`
    have h3 : (i + PAGE_SIZE) / PAGE_SIZE ≤ (b + PAGE_SIZE - 1) / PAGE_SIZE :=
      Nat.div_le_div_right (Nat.le_sub_one_of_lt (Nat.add_lt_add_right h2 _))
    rw [Nat.add_div_right i pageSize_pos] at h3
    exact Nat.lt_irrefl _ (Nat.lt_of_lt_of_le h3 h)

/-- the invariant carried through the events: the range keeps its synced bytes in both views and none
    of its pages is dirty -/
structure Keeps (base : List UInt8) (a b : Nat) (f : FileD) : Prop where
  dur : ∀ i, a ≤ i → i < b → f.durable[i]? = base[i]?
  vol : ∀ i, a ≤ i → i < b → f.volatile[i]? = base[i]?
  clean : ∀ i, a ≤ i → i < b → i / PAGE_SIZE ∉ f.dirty
  lenD : b ≤ f.durable.length
  lenV : b ≤ f.volatile.length

/-- `write`, and `punch`, which stores `n` zeros -/
theorem keeps_store (base : List UInt8) (a b : Nat) (f : FileD) (off : Nat) (d : List UInt8) (n : Nat) (hn : d.length = n)
    (k : Keeps base a b f) (h : ∀ p ∈ pagesOf off n, p < a / PAGE_SIZE ∨ (b + PAGE_SIZE - 1) / PAGE_SIZE ≤ p) :
    Keeps base a b { f with volatile := writeList f.volatile off d, dirty := f.dirty ++ pagesOf off n } := by
  subst hn
  have hout : ∀ i, a ≤ i → i < b → (i < off ∨ off + d.length ≤ i) := by
    intro i h1 h2
    by_cases hc : off ≤ i ∧ i < off + d.length
    · exact absurd (h _ (mem_pagesOf off d.length i hc.1 hc.2)) (page_in_range a b i h1 h2)
    · omega
  refine ⟨k.dur, fun i h1 h2 => ?_, fun i h1 h2 hm => ?_, k.lenD, Nat.le_trans k.lenV (Nat.le_of_eq (length_writeList ..).symm)⟩
  · exact (getElem?_writeList _ _ _ _ (hout i h1 h2)).trans (k.vol i h1 h2)
  · rcases List.mem_append.mp hm with hm | hm
    · exact k.clean i h1 h2 hm
    · exact page_in_range a b i h1 h2 (h _ hm)

theorem keeps_apply (base : List UInt8) (a b : Nat) (f : FileD) (e : Ev) (k : Keeps base a b f) (h : e.avoids a b) :
    Keeps base a b (f.apply e) := by
  cases e with
  | write off d => exact keeps_store base a b f off d _ rfl k h
  | punch off len => exact keeps_store base a b f off _ len List.length_replicate k h
  | setLen n =>
    have h : b ≤ n := h
    refine ⟨fun i h1 h2 => ?_, fun i h1 h2 => ?_, k.clean, Nat.le_trans h (Nat.le_of_eq (length_resize ..).symm),
      Nat.le_trans h (Nat.le_of_eq (length_resize ..).symm)⟩
    · exact (getElem?_resize _ _ _ (Nat.lt_of_lt_of_le h2 h) (Nat.lt_of_lt_of_le h2 k.lenD)).trans (k.dur i h1 h2)
    · exact (getElem?_resize _ _ _ (Nat.lt_of_lt_of_le h2 h) (Nat.lt_of_lt_of_le h2 k.lenV)).trans (k.vol i h1 h2)
  | sync => exact ⟨k.vol, k.vol, fun _ _ _ hm => (nomatch hm), k.lenV, k.lenV⟩
  | flushAsync => exact k

theorem keeps_run (base : List UInt8) (a b : Nat) (f : FileD) (evs : List Ev) (k : Keeps base a b f)
    (h : ∀ e ∈ evs, e.avoids a b) : Keeps base a b (f.run evs) := by
  induction evs generalizing f with
  | nil => exact k
  | cons e t ih =>
    simp only [FileD.run, List.foldl_cons]
    exact ih (f.apply e) (keeps_apply base a b f e k (h e (by simp))) (fun e' he' => h e' (by simp [he']))

theorem C05_sync_exact (f : FileD) (img : List UInt8) (h : CrashImage (f.apply .sync) img) : img = f.volatile := by
  obtain ⟨hl, hb⟩ := h
  apply List.ext_getElem?
  intro i
  exact hb i (by simp [FileD.apply])

theorem C05_untouched (f : FileD) (evs : List Ev) (a b : Nat) (img : List UInt8)
    (hb : b ≤ f.volatile.length)
    (hav : ∀ e ∈ evs, e.avoids a b)
    (hc : CrashImage ((f.apply .sync).run evs) img) :
    ∀ i, a ≤ i → i < b → img[i]? = f.volatile[i]? := by
  have k0 : Keeps f.volatile a b (f.apply .sync) :=
    ⟨fun _ _ _ => rfl, fun _ _ _ => rfl, fun _ _ _ hm => by simp [FileD.apply] at hm, hb, hb⟩
  have k := keeps_run f.volatile a b (f.apply .sync) evs k0 hav
  intro i h1 h2
  rw [hc.2 i (k.clean i h1 h2)]
  exact k.dur i h1 h2

theorem C05_slot_atomic (f : FileD) (evs : List Ev) (slot : Nat) (img : List UInt8)
    (hb : (slot + 1) * SIZE_OF_REGION_METADATA ≤ f.volatile.length)
    (hav : ∀ e ∈ evs, e.avoids (slot * SIZE_OF_REGION_METADATA) ((slot + 1) * SIZE_OF_REGION_METADATA))
    (hc : CrashImage ((f.apply .sync).run evs) img) :
    ∀ i, slot * SIZE_OF_REGION_METADATA ≤ i → i < (slot + 1) * SIZE_OF_REGION_METADATA → img[i]? = f.volatile[i]? :=
  C05_untouched f evs _ _ img hb hav hc

def pos (l : List String) (x : String) : Nat := (l.findIdx? (· == x)).getD l.length

theorem C05_order :
    pos flushOrder "dataSync" < pos flushOrder "regionsSync" ∧
    pos flushOrder "regionsSync" < pos flushOrder "promote" ∧
    pos flushOrder "regionsSync" < pos flushOrder "markClean" ∧
    pos flushEarlyOrder "regionsSync" < pos flushEarlyOrder "promote" ∧
    flushOrder.count "promote" = 1 ∧ flushEarlyOrder.count "promote" = 1 ∧
    SIZE_OF_REGION_METADATA = PAGE_SIZE := by
  decide

/-- non-vacuity: a store into page 1 leaves page 0 of every crash image alone -/
example : (Ev.write 4096 [1, 2, 3]).avoids 0 4096 := by
  simp only [Ev.avoids, pagesOf]
  decide

end AnyDB.C05
