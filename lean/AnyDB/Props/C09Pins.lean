import AnyDB.Generated.ConcOrders
import AnyDB.Props.C09

/-!
# C09 — the tie to the source: the writer programs of the two models ARE the extracted call orders

`effInPlace`, `effReloc`, `vecTail`, `effComp` translate the extracted call names into the models' writer effects; the
writer programs (`C09.progInPlace`, `C09.progReloc`, `PublishC.prog`) are proved equal to the translated orders.  The
readers' extracted orders are only compared with literal lists: the reader steps of the models (`rLoad`, `rSnap`, `rLock`, …)
are not built from them.

Kept apart from `Props/C09.lean` so that only the C09 check depends on these pins (the protocol driver imports the
models and programs, not the pins): a change of the extracted orders breaks exactly these two theorems.
-/
namespace AnyDB.C09
open AnyDB Publish

/-- region-level calls of the in-place paths of `write_with` -/
def effInPlace : String → Option Eff
  | "dbWrite" => some .copy | "setLen" => some .setLen | _ => none
/-- region-level calls of the relocation path: `set_start`, `set_reserved`, `set_len` run under one metadata write
guard — one `move` -/
def effReloc : String → Option Eff
  | "dbCopy" => some .relocCopy | "dbWrite" => some .copy | "setStart" => some .move | _ => none
/-- what raw `write()` does after `truncate_write` -/
def vecTail (l : List String) : List Eff :=
  ((l.dropWhile (· != "truncateWrite")).drop 1).filterMap (fun s => if s == "updateStoredLen" then some Eff.publish else none)

/-- the two writer programs of the raw model ARE what the extractor read off `Region::write_with` (fits path,
relocation path) followed by what raw `write()` does after `truncate_write`; a reader loads the length before it
creates its rawdb Reader, and `Reader::new` takes start and length under one metadata guard -/
theorem C09_programs :
    Gen.wwFitsOrder.filterMap effInPlace ++ vecTail Gen.rawVecAppendOrder = progInPlace ∧
    Gen.wwRelocateOrder.filterMap effReloc ++ vecTail Gen.rawVecAppendOrder = progReloc ∧
    Gen.rawVecAppendOrder.head? = some "truncateWrite" ∧
    Gen.roRawOneOrder = ["loadLen", "createReader"] ∧ Gen.roRawIntoOrder = ["loadLen", "createReader"] ∧
    Gen.vecReaderOrder = ["lenParam", "createReader"] ∧
    Gen.readerNewOrder = ["meta", "start", "len", "dropMeta", "mmap"] :=
  ⟨by decide, by decide, by decide, rfl, rfl, rfl, rfl⟩

end AnyDB.C09

namespace AnyDB.PublishC

def effComp : String → Option Eff
  | "truncateWrite" => some .dataWrite | "pagesWrite" => some .lockIndex | "pagesPush" => some .indexUpdate
  | "updateStoredLen" => some .publish | "pagesFlush" => some .unlockIndex | _ => none

/-- both paths of compressed `write()` are: data, index lock, index update, publication, unlock — and a read-only
clone loads the length before it takes the index read lock -/
theorem C09_comp_programs :
    Gen.compWriteFastOrder.filterMap effComp = prog ∧ Gen.compWriteSlowOrder.filterMap effComp = prog ∧
    Gen.roCompIntoOrder = ["loadLen", "createReader", "pagesRead"] :=
  ⟨by decide, by decide, rfl⟩

end AnyDB.PublishC
