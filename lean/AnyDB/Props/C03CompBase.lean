import AnyDB.Props.C07
/-!
# Compressed vectors: page lists and the state invariant

Page lists in which every page but the last is full (`PagesWF`, `AllFull`) and the number of values they decode to (`pv_*`,
`pagesStoredLen_eq`); the state invariant `CInv` of plain histories; `stored_split`: the stored values are the full pages
before the write position followed by the kept head of the page there.
-/
namespace AnyDB.C03c
open VecM VecM.V C07

/-- what a compressed vector shows: the first `storedLen` decoded values, then the pushed ones -/
def shown (s : V) : List Nat := (pagesValues s.pages).take s.storedLen ++ s.pushed

theorem shown_len (s : V) (h : s.storedLen ≤ (pagesValues s.pages).length) : (shown s).length = s.len := by
  unfold shown V.len
  rw [List.length_append, List.length_take_of_le h]

/-- up to the stored length a vector shows its decoded pages -/
theorem shown_take (s : V) (h : s.storedLen ≤ (pagesValues s.pages).length) (k : Nat) (hk : k ≤ s.storedLen) :
    (shown s).take k = (pagesValues s.pages).take k := by
  unfold shown
  rw [List.take_append_of_le_length (by rw [List.length_take_of_le h]; exact hk), List.take_take, Nat.min_eq_left hk]

/-- every page decodes to as many values as its index entry says; every page but the last is full -/
def PagesWF (pp : Nat) : List Page → Prop
  | [] => True
  | [p] => p.content.length = p.values ∧ p.values ≤ pp
  | p :: q :: t => (p.content.length = p.values ∧ p.values = pp) ∧ PagesWF pp (q :: t)

def AllFull (pp : Nat) (l : List Page) : Prop := ∀ p ∈ l, p.content.length = p.values ∧ p.values = pp

theorem wf_cons (pp : Nat) (p : Page) (t : List Page) (h : PagesWF pp (p :: t)) :
    p.content.length = p.values ∧ p.values ≤ pp ∧ (t ≠ [] → p.values = pp) ∧ PagesWF pp t := by
  cases t with
  | nil => exact ⟨h.1, h.2, fun hn => absurd rfl hn, trivial⟩
  | cons q t => exact ⟨h.1.1, Nat.le_of_eq h.1.2, fun _ => h.1.2, h.2⟩

theorem wf_cons_intro (pp : Nat) (p : Page) (t : List Page) (h1 : p.content.length = p.values) (h2 : p.values ≤ pp)
    (h3 : t ≠ [] → p.values = pp) (h4 : PagesWF pp t) : PagesWF pp (p :: t) := by
  cases t with
  | nil => exact ⟨h1, h2⟩
  | cons q r => exact ⟨⟨h1, h3 (by simp)⟩, h4⟩

theorem wf_get (pp : Nat) (l : List Page) (k : Nat) (p : Page) (h : PagesWF pp l) (hk : l[k]? = some p) :
    p.content.length = p.values ∧ p.values ≤ pp ∧ (k + 1 < l.length → p.values = pp) := by
  induction l generalizing k with
  | nil => simp at hk
  | cons a t ih =>
    obtain ⟨h1, h2, h3, h4⟩ := wf_cons pp a t h
    cases k with
    | zero =>
      simp at hk; subst hk
      exact ⟨h1, h2, fun hl => h3 (by intro he; rw [he] at hl; simp at hl)⟩
    | succ j =>
      obtain ⟨g1, g2, g3⟩ := ih j h4 hk
      exact ⟨g1, g2, fun hl => g3 (by simp at hl; omega)⟩

theorem wf_append_full (pp : Nat) (a b : List Page) (ha : AllFull pp a) (hb : PagesWF pp b) : PagesWF pp (a ++ b) := by
  induction a with
  | nil => exact hb
  | cons p t ih =>
    have iht := ih (fun x hx => ha x (List.mem_cons_of_mem _ hx))
    have hp := ha p (List.mem_cons_self ..)
    cases hl : t ++ b with
    | nil => rw [List.cons_append, hl]; exact ⟨hp.1, Nat.le_of_eq hp.2⟩
    | cons q r => rw [List.cons_append, hl]; rw [hl] at iht; exact ⟨hp, iht⟩

theorem wf_of_full (pp : Nat) (a : List Page) (ha : AllFull pp a) : PagesWF pp a := by
  have := wf_append_full pp a [] ha trivial
  simpa using this

theorem full_take (pp : Nat) (l : List Page) (k : Nat) (h : PagesWF pp l) (hk : k < l.length) : AllFull pp (l.take k) := by
  induction l generalizing k with
  | nil => simp at hk
  | cons p t ih =>
    cases k with
    | zero => intro x hx; simp at hx
    | succ j =>
      obtain ⟨h1, _, h3, h4⟩ := wf_cons pp p t h
      have hj : j < t.length := Nat.lt_of_succ_lt_succ hk
      have hne : t ≠ [] := List.ne_nil_of_length_pos (Nat.zero_lt_of_lt hj)
      intro x hx
      simp only [List.take_succ_cons, List.mem_cons] at hx
      rcases hx with rfl | hx
      · exact ⟨h1, h3 hne⟩
      · exact ih j h4 hj x hx

theorem pv_full_length (pp : Nat) (l : List Page) (h : AllFull pp l) : (pagesValues l).length = l.length * pp := by
  induction l with
  | nil => simp [pagesValues]
  | cons p t ih =>
    have hp := h p (List.mem_cons_self ..)
    rw [pv_cons, List.length_append, ih (fun x hx => h x (List.mem_cons_of_mem _ hx)), hp.1, hp.2, List.length_cons, Nat.add_mul]
    omega

theorem pv_length_le (pp : Nat) (l : List Page) (h : PagesWF pp l) : (pagesValues l).length ≤ l.length * pp := by
  induction l with
  | nil => simp [pagesValues]
  | cons p t ih =>
    obtain ⟨h1, h2, _, h4⟩ := wf_cons pp p t h
    rw [pv_cons, List.length_append, h1, List.length_cons, Nat.add_mul]
    have := ih h4; omega

/-- `Pages::stored_len` is the number of decoded values -/
theorem pagesStoredLen_eq (pp : Nat) (l : List Page) (h : PagesWF pp l) : pagesStoredLen l pp = (pagesValues l).length := by
  induction l with
  | nil => rfl
  | cons p t ih =>
    obtain ⟨h1, h2, h3, h4⟩ := wf_cons pp p t h
    cases t with
    | nil => simp [pagesStoredLen, pagesValues, h1]
    | cons q r =>
      have := ih h4
      have hp := h3 (by simp)
      rw [pv_cons, List.length_append, ← this, h1, hp]
      unfold pagesStoredLen
      simp only [List.getLast?_cons_cons, List.length_cons]
      cases hl : (q :: r).getLast? with
      | none => simp at hl
      | some l => simp only [Nat.add_sub_cancel]; rw [Nat.add_mul]; omega

theorem full_of_length (pp : Nat) (l : List Page) (h : PagesWF pp l) (hl : l.length * pp ≤ (pagesValues l).length) : AllFull pp l := by
  induction l with
  | nil => intro x hx; simp at hx
  | cons p t ih =>
    obtain ⟨h1, h2, _, h4⟩ := wf_cons pp p t h
    have ht := pv_length_le pp t h4
    rw [pv_cons, List.length_append, h1, List.length_cons, Nat.add_mul] at hl
    intro x hx
    simp only [List.mem_cons] at hx
    rcases hx with rfl | hx
    · exact ⟨h1, by omega⟩
    · exact ih h4 (by omega) x hx

theorem pv_split (l : List Page) (k : Nat) (p : Page) (h : l[k]? = some p) :
    pagesValues l = pagesValues (l.take k) ++ p.content ++ pagesValues (l.drop (k + 1)) := by
  have hk : k < l.length := (List.getElem?_eq_some_iff.mp h).1
  have : l = l.take k ++ p :: l.drop (k + 1) := by
    have hd : l.drop k = p :: l.drop (k + 1) := by
      rw [List.drop_eq_getElem_cons hk]
      rw [List.getElem?_eq_getElem hk] at h; cases h; rfl
    rw [← hd, List.take_append_drop]
  conv => lhs; rw [this]
  rw [pv_append, pv_cons, List.append_assoc]

theorem enc_build_wf (pp sz x : Nat) (chunks : List (List Nat)) (cs : List Nat) (h : ChunksWF pp chunks) :
    PagesWF pp (buildPages x (encChunks pp sz chunks cs)) := by
  induction chunks generalizing cs x with
  | nil => trivial
  | cons ch rest ih =>
    obtain ⟨b, cs', e, _⟩ := encChunks_cons pp sz ch rest cs
    rw [e]
    cases rest with
    | nil => exact ⟨rfl, h⟩
    | cons d t => exact wf_cons_intro pp _ _ rfl (Nat.le_of_eq h.1) (fun _ => h.1) (ih _ cs' h.2)

/-- the state invariant of plain histories on a compressed vector -/
structure CInv (s : V) : Prop where
  kind : s.kind = .comp
  pp : 0 < s.perPage
  wf : PagesWF s.perPage s.pages
  stored : s.storedLen ≤ (pagesValues s.pages).length

theorem CInv.edited {s t : V} (h : CInv s) (e : Edited s t) : CInv t := by
  rw [e.1]
  exact ⟨h.kind, h.pp, h.wf, Nat.le_trans e.2 h.stored⟩

theorem stored_split (s : V) (h : CInv s) :
    let spi := s.storedLen / s.perPage
    let pl := s.storedLen % s.perPage
    let values0 := (match s.pages[spi]? with | some page => page.content.take pl | none => [])
    (pagesValues s.pages).take s.storedLen = pagesValues (s.pages.take spi) ++ values0 ∧
    (pagesValues (s.pages.take spi)).length = spi * s.perPage ∧ values0.length = pl ∧ AllFull s.perPage (s.pages.take spi) := by
  intro spi pl values0
  have hdm : s.storedLen = spi * s.perPage + pl := by
    have := Nat.div_add_mod s.storedLen s.perPage
    rw [Nat.mul_comm] at this; exact this.symm
  have hpl : pl < s.perPage := Nat.mod_lt _ h.pp
  have hst := h.stored
  cases hp : s.pages[spi]? with
  | some page =>
    have hk : spi < s.pages.length := (List.getElem?_eq_some_iff.mp hp).1
    have hfull := full_take s.perPage s.pages spi h.wf hk
    have hA : (pagesValues (s.pages.take spi)).length = spi * s.perPage := by
      rw [pv_full_length _ _ hfull, List.length_take_of_le (Nat.le_of_lt hk)]
    obtain ⟨g1, g2, g3⟩ := wf_get s.perPage s.pages spi page h.wf hp
    have hsplit := pv_split s.pages spi page hp
    have hplc : pl ≤ page.content.length := by
      by_cases hlast : spi + 1 < s.pages.length
      · rw [g1, g3 hlast]; exact Nat.le_of_lt hpl
      · have : s.pages.drop (spi + 1) = [] := List.drop_eq_nil_of_le (by omega)
        rw [this, pv_nil, List.append_nil] at hsplit
        rw [hsplit, List.length_append, hA] at hst
        omega
    have hv0 : values0 = page.content.take pl := by simp only [values0, hp]
    refine ⟨?_, hA, by rw [hv0, List.length_take_of_le hplc], hfull⟩
    rw [hv0, hsplit, hdm, List.append_assoc, ← hA, List.take_length_add_append, List.take_append_of_le_length hplc]
  | none =>
    -- no page at the write position: `length · pp ≤ spi · pp ≤ storedLen ≤ decoded length ≤ length · pp`, so all inequalities
    -- are equalities; in particular every page is full
    have hk : s.pages.length ≤ spi := List.getElem?_eq_none_iff.mp hp
    have hmul : s.pages.length * s.perPage ≤ spi * s.perPage := Nat.mul_le_mul_right _ hk
    have hv0 : values0 = [] := by simp only [values0, hp]
    have htk : s.pages.take spi = s.pages := List.take_of_length_le hk
    have hfull := full_of_length s.perPage s.pages h.wf (by omega)
    have hLe := pv_full_length _ _ hfull
    refine ⟨?_, by rw [htk, hLe]; omega, by rw [hv0, List.length_nil]; omega, by rw [htk]; exact hfull⟩
    rw [hv0, htk, List.append_nil, List.take_of_length_le (by omega)]

end AnyDB.C03c
