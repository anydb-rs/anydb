import AnyDB.Props.C01Reopen
import AnyDB.Props.C02Run
/-!
# C01 / C02 for every well-formed history — no hypothesis about the answers

`C01_history_partial` and the C02 history theorems assume that no request of the history panics or
answers `RegionSizeOverflow`.  Here that assumption is *proved* from conditions on the requests
alone:

* the names given to `create_region_if_needed` and `rename` are valid (`validate_id` accepts them — the code
  panics otherwise, which is its documented contract), and
* in the **reference** (one independent byte vector per region, `refStep`) no region grows beyond
  `MAX_LEN` = 2^39 bytes (512 GiB; beyond it the doubled reservation would exceed the code's
  `MAX_RESERVED_SIZE` of 1 TiB, where `set_reserved` asserts).

Both are conditions on the list of requests only — `refStep` never looks at the database.  The proof
rests on: every extent ends inside the data file (`InF`, `inf_step`), so that no write,
copy or relocation can miss the mapping (`write_to_mmap`'s bounds assertion); the reservation taken
for a relocation is still there when it is claimed (`take_reserved`); the doubling loop ends below
twice the need (`growReserved_lt`) and does find a size (`growReserved_some`).

The history theorems are read off ONE induction, `good_run`: from any state that shows a reference (up to trailing free slots)
and satisfies every invariant (`Good`), a well-formed history (`OKRun`) in which a reopen happens only when every live region
has been written (`ReadyRun`; every history without reopen is one) never panics and ends in such a state again.
`C02_history` is its instance on histories without reopen; `C01_history` and `C01_reopen` take from it that every request is
answered `Fine` and the rest from `C01_history_partial` / `C01_reopen_partial`; `Props/C01All.lean` states the general ones.
-/
namespace AnyDB.C01r
open Db C02r

/-- no region of the reference is longer than `MAX_LEN` -/
def Small (r : Ref) : Prop :=
  r.all (fun o => match o with | some e => decide (e.2.length ≤ MAX_LEN) | none => true) = true

theorem small_get (r : Ref) (h : Small r) (idx : Nat) (e : RegionId × List UInt8) (he : r[idx]?.join = some e) : e.2.length ≤ MAX_LEN := by
  unfold Small at h
  rw [List.all_eq_true] at h
  exact of_decide_eq_true (h (some e) (List.mem_of_getElem? (Option.join_eq_some_iff.mp he)))

/-- the names a request introduces are valid -/
def NamesValid : Op → Prop
  | .create id => idValid id = true
  | .rename _ n => idValid n = true
  | _ => True

/-- a well-formed history: valid names, and the reference never holds a region beyond `MAX_LEN` -/
def OKRun (r : Ref) : List Op → Prop
  | [] => True
  | op :: t => NamesValid op ∧ Small (refStep r op) ∧ OKRun (refStep r op) t

instance (r : Ref) : Decidable (Small r) := by unfold Small; exact inferInstance
instance (op : Op) : Decidable (NamesValid op) := by cases op <;> unfold NamesValid <;> exact inferInstance
def decOKRun : (r : Ref) → (ops : List Op) → Decidable (OKRun r ops)
  | _, [] => isTrue trivial
  | r, op :: t => by
    unfold OKRun
    exact @instDecidableAnd _ _ _ (@instDecidableAnd _ _ _ (decOKRun (refStep r op) t))
instance (r : Ref) (ops : List Op) : Decidable (OKRun r ops) := decOKRun r ops

/-- a reopen happens only when every live region has been written at least once -/
def ReadyRun (s : Db) : List Op → Prop
  | [] => True
  | op :: t => (∀ n, op = .reopen n → ∀ idx sl, s.slot? idx = some sl → sl.st ≠ .needsWrite) ∧ ReadyRun (step s op).1 t

theorem readyRun_of_noReopen (s : Db) (ops : List Op) (hr : NoReopen ops) : ReadyRun s ops := by
  induction ops generalizing s with
  | nil => trivial
  | cons op t ih =>
    exact ⟨fun n h => absurd h (hr op (List.mem_cons_self ..) n), ih _ (fun o ho => hr o (List.mem_cons_of_mem _ ho))⟩

theorem wfits_of_small (s : Db) (r : Ref) (hrel : Rel s r) (id : RegionId) (at_ : Option Nat) (tr : Bool) (d : List UInt8)
    (hsm : Small (refOn r id (refWriteE at_ tr d))) : WFits s id at_ tr d := by
  intro idx sl hf hs hoob
  obtain ⟨e, he, _, e2, _⟩ := rel_get s r idx sl hrel hs
  have hfind := rel_findId s r hrel id
  rw [refOn_some _ _ _ idx e (by rw [← hfind, hf]) he] at hsm
  unfold refWriteE at hsm
  rw [e2, hoob] at hsm
  simp only [Bool.false_eq_true, if_false] at hsm
  have hlt : idx < r.length := (List.getElem?_eq_some_iff.mp (Option.join_eq_some_iff.mp he)).1
  have := small_get _ hsm idx (e.1, refWrite e.2 at_ tr d) (by rw [List.getElem?_set_self hlt]; rfl)
  simp only at this
  rw [refWrite_length e.2 at_ tr d (by rw [e2]; exact hoob), e2] at this
  exact this

theorem opFits_of_ok (s : Db) (r : Ref) (op : Op) (hrel : Rel s r) (hn : NamesValid op) (hsm : Small (refStep r op)) : OpFits s op := by
  cases op with
  | create id => exact hn
  | rename id n => exact hn
  | write id d => exact wfits_of_small s r hrel id none false d hsm
  | writeAt id a d => exact wfits_of_small s r hrel id (some a) false d hsm
  | truncateWrite id a d => exact wfits_of_small s r hrel id (some a) true d hsm
  | _ => trivial

/-- a well-formed history never panics and never answers `RegionSizeOverflow` -/
theorem fineRun_of_ok (s : Db) (r : Ref) (ops : List Op) (hrel : Rel s r) (hinv : RInv s) (hi : InF s) (hr : NoReopen ops)
    (hok : OKRun r ops) : FineRun s ops := by
  induction ops generalizing s r with
  | nil => trivial
  | cons op t ih =>
    have hno := hr op (List.mem_cons_self ..)
    have hf := fine_step s op hinv hi hno (opFits_of_ok s r op hrel hok.1 hok.2.1)
    obtain ⟨_, h1, h2, h3⟩ := fine_next s r op hrel hinv hi hno hf
    exact ⟨hf, ih _ _ h1 h2 h3 (fun o ho => hr o (List.mem_cons_of_mem _ ho)) hok.2.2⟩

theorem inf_run (s : Db) (ops : List Op) (h : LInv s) (hi : InF s) (hr : NoReopen ops) (hp : NoPanic s ops) : InF (run s ops) :=
  (run_keeps s ops h hr hp).inf hi

theorem small_pad (r : Ref) (k : Nat) : Small (r ++ nones k) ↔ Small r := by
  have hn : Small (nones k) := List.all_eq_true.mpr fun x hx => by rw [(List.mem_replicate.mp hx).2]
  unfold Small at hn ⊢
  rw [List.all_append, hn, Bool.and_true]

theorem small_eqUpTo (r r' : Ref) (h : EqUpTo r r') : Small r ↔ Small r' := by
  obtain ⟨a, b, e⟩ := h
  rw [← small_pad r a, e, small_pad]

/-- everything the induction carries: the state shows the reference (up to trailing free slots) and satisfies every invariant -/
structure Good (s : Db) (ρ : Ref) : Prop where
  rel : ∃ ρ', Rel s ρ' ∧ EqUpTo ρ ρ'
  rinv : RInv s
  acc : Acc s
  al : Al s
  inf : InF s
  finv : FInv s

theorem good_init : Good Db.init [] :=
  ⟨⟨[], rel_init.1, EqUpTo.refl _⟩, rel_init.2, acc_init, al_init, inf_init, finv_init⟩

theorem good_step (s : Db) (ρ : Ref) (op : Op) (g : Good s ρ) (hn : NamesValid op) (hsm : Small (refStep ρ op))
    (hready : ∀ n, op = .reopen n → ∀ idx sl, s.slot? idx = some sl → sl.st ≠ .needsWrite) :
    Fine (step s op).2 ∧ Good (step s op).1 (refStep ρ op) := by
  obtain ⟨ρ', hrel, he⟩ := g.rel
  by_cases hre : ∃ n, op = .reopen n
  · obtain ⟨n, rfl⟩ := hre
    have hw := hready n rfl
    obtain ⟨hok, i1, i2, i3, i4, i5⟩ := reopen_inv s n g.finv g.rinv g.al g.inf hw
    obtain ⟨ρ'', r1, r2⟩ := rel_reopen s ρ' n hrel g.finv g.rinv g.al hw hok
    refine ⟨by show Fine (s.reopen n).2; rw [hok]; exact fine_ok, ⟨⟨ρ'', r1, he.trans r2⟩, i1, i2, i3, i4, i5⟩⟩
  · have hno : ∀ n, op ≠ .reopen n := fun n h => hre ⟨n, h⟩
    have hes := eqUpTo_step ρ ρ' op he
    have hsm' : Small (refStep ρ' op) := (small_eqUpTo _ _ hes).mp hsm
    have hnorm := normal_of_fits s op g.rinv g.inf hno (opFits_of_ok s ρ' op hrel hn hsm')
    have hf := fine_of_normal hnorm
    obtain ⟨r1, r2⟩ := rel_step s ρ' op hrel g.rinv hno hnorm
    have hs := (sinv_step s op ⟨g.rinv.lay, g.acc, g.al, g.inf, g.finv⟩ hno).resolve_left hf.1
    exact ⟨hf, ⟨⟨_, r1, hes⟩, r2, hs.acc, hs.al, hs.inf, hs.finv⟩⟩

theorem good_run (s : Db) (ρ : Ref) (ops : List Op) (g : Good s ρ) (hok : OKRun ρ ops) (hready : ReadyRun s ops) :
    FineRun s ops ∧ Good (run s ops) (ops.foldl refStep ρ) := by
  induction ops generalizing s ρ with
  | nil => exact ⟨trivial, g⟩
  | cons op t ih =>
    obtain ⟨h1, h2⟩ := good_step s ρ op g hok.1 hok.2.1 hready.1
    obtain ⟨i1, i2⟩ := ih _ _ h2 hok.2.2 hready.2
    exact ⟨⟨h1, i1⟩, i2⟩

/-- **C01 for every well-formed history without `reopen`**: no request panics; every answer is a
success or a documented refusal; and the database shows exactly the reference — names, lengths,
bytes.  The hypotheses speak about the requests only. -/
theorem C01_history (ops : List Op) (hr : NoReopen ops) (hok : OKRun [] ops) :
    NoPanic Db.init ops ∧ NormalRun Db.init ops ∧ view (run Db.init ops) = (refRun ops).map (Option.map liftE) := by
  have hf := (good_run Db.init [] ops good_init hok (readyRun_of_noReopen _ ops hr)).1
  obtain ⟨hv, hn, _⟩ := C01_history_partial ops hr hf
  exact ⟨noPanic_of_fine Db.init ops hf, hn, hv⟩

/-- **C02 for every well-formed history without `reopen`**: extents are pairwise disjoint (`LInv`, in `RInv`), the claimed
bytes form an initial segment (`Acc`; with disjointness, every byte below `Layout::len()` is claimed exactly once, which
`C02_history_accounted` spells out under `NoPanic`), everything is page-aligned, every extent ends inside the data file, every
region's contents lie inside its reservation, and the metadata file agrees with the slots (`FInv`). -/
theorem C02_history (ops : List Op) (hr : NoReopen ops) (hok : OKRun [] ops) :
    RInv (run Db.init ops) ∧ Acc (run Db.init ops) ∧ Al (run Db.init ops) ∧ InF (run Db.init ops) ∧ FInv (run Db.init ops) := by
  obtain ⟨_, g⟩ := good_run Db.init [] ops good_init hok (readyRun_of_noReopen _ ops hr)
  exact ⟨g.rinv, g.acc, g.al, g.inf, g.finv⟩

/-- … and across a reopen (every live region written at least once): the open succeeds and shows the reference -/
theorem C01_reopen (ops : List Op) (n : Nat) (hr : NoReopen ops) (hok : OKRun [] ops)
    (hw : ∀ idx sl, (run Db.init ops).slot? idx = some sl → sl.st ≠ .needsWrite) :
    ((run Db.init ops).reopen n).2 = .ok ∧
    ∀ idx, viewAt ((run Db.init ops).reopen n).1 idx = ((refRun ops)[idx]?.join).map liftE :=
  C01_reopen_partial ops n hr (good_run Db.init [] ops good_init hok (readyRun_of_noReopen _ ops hr)).1 hw

/-- the conditions are satisfiable and decidable on a concrete history -/
example : OKRun [] [.create [97], .write [97] [1, 2, 3], .create [98], .write [97] (List.replicate 50 7), .rename [97] [99], .remove [98], .flush, .compact] := by
  decide

end AnyDB.C01r
