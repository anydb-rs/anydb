import AnyDB.Lemmas.RegionView
/-!
What a request leaves alone, as relations between the state before and the state after (`Oth`, `Keep`; for one slot, `SKept` of
`Lemmas/RawdbSteps.lean`), each with its lemmas about the primitive state changes.  `writeWith_foot`: whatever placement path
`write_with` takes, it is bookkeeping that stores data inside one window only (`WPre`) followed by one of three ends (`WEnd`),
and the window is apart from every other live region; the invariants that follow a write (`FInv`, `Keep`) consume this and do
not look at the four paths.
The first part (`Oth`, and what `dataWrite` and `dataCopy` leave alone) is in namespace `C01r`, where `Lemmas/RegionFile.lean`
uses `Oth` for `FInv`; the rest, from `Av` on, is in `C05r`.
-/
namespace AnyDB.C01r
open Db

/-- the other slots and the metadata file are as in `s` -/
def Oth (s t : Db) (idx : Nat) : Prop := t.slots.length = s.slots.length ∧ (∀ j, j ≠ idx → t.slot? j = s.slot? j) ∧ t.rfile = s.rfile

theorem Oth.refl (s : Db) (idx : Nat) : Oth s s idx := ⟨rfl, fun _ _ => rfl, rfl⟩
theorem Oth.trans {a b c : Db} {idx : Nat} (h1 : Oth a b idx) (h2 : Oth b c idx) : Oth a c idx :=
  ⟨h2.1.trans h1.1, fun j hj => (h2.2.1 j hj).trans (h1.2.1 j hj), h2.2.2.trans h1.2.2⟩
theorem oth_of_eq (s t : Db) (idx : Nat) (h1 : t.slots = s.slots) (h2 : t.rfile = s.rfile) : Oth s t idx :=
  ⟨by rw [h1], fun j _ => slot?_congr h1 j, h2⟩
theorem dataWrite_frame {s s' : Db} {off : Nat} {d : List UInt8} (h : s.dataWrite off d = some s') :
    s'.slots = s.slots ∧ s'.rfile = s.rfile := by
  obtain ⟨m, _, rfl⟩ := dataWrite_eq_some h
  exact ⟨rfl, rfl⟩
theorem dataCopy_frame {s s' : Db} {a b n : Nat} (h : s.dataCopy a b n = .ok s') : s'.slots = s.slots ∧ s'.rfile = s.rfile := by
  rcases dataCopy_ok h with ⟨_, rfl⟩ | ⟨_, _, hw⟩
  · exact ⟨rfl, rfl⟩
  · exact dataWrite_frame hw

end AnyDB.C01r

namespace AnyDB.C05r
open Db C02r C01r Mem

/-- the event stores nothing into `[a, b)` of the data file and does not cut the file below `b`; it does not write
slot `j` of the metadata file and does not cut that file below the slot -/
def Av (j a b : Nat) : Event → Prop
  | .dataWrite off d => off + d.length ≤ a ∨ b ≤ off
  | .punch off len => off + len ≤ a ∨ b ≤ off
  | .setLen .data n => b ≤ n
  | .setLen .regions n => (j + 1) * Gen.SIZE_OF_REGION_METADATA ≤ n
  | .metaWrite idx _ => idx ≠ j
  | _ => True

/-- `s'` was reached from `s` by steps that left the metadata of slot `j` alone, appended only events that avoid
`[a, b)`, and did not shrink the file -/
def Keep (j a b : Nat) (s s' : Db) : Prop :=
  (s'.slot? j).map (·.md) = (s.slot? j).map (·.md) ∧
  (∃ evs, s'.log = s.log ++ evs ∧ ∀ e ∈ evs, Av j a b e) ∧ s.fileLen ≤ s'.fileLen ∧ s.rfile.length ≤ s'.rfile.length

theorem Keep.refl (j a b : Nat) (s : Db) : Keep j a b s s :=
  ⟨rfl, ⟨[], (List.append_nil _).symm, fun _ h => nomatch h⟩, Nat.le_refl _, Nat.le_refl _⟩

theorem Keep.trans {j a b : Nat} {s1 s2 s3 : Db} (h1 : Keep j a b s1 s2) (h2 : Keep j a b s2 s3) : Keep j a b s1 s3 := by
  obtain ⟨a1, ⟨e1, l1, p1⟩, f1, g1⟩ := h1
  obtain ⟨a2, ⟨e2, l2, p2⟩, f2, g2⟩ := h2
  refine ⟨a2.trans a1, ⟨e1 ++ e2, by rw [l2, l1, List.append_assoc], ?_⟩, Nat.le_trans f1 f2, Nat.le_trans g1 g2⟩
  intro e he
  rcases List.mem_append.mp he with h | h
  · exact p1 e h
  · exact p2 e h

theorem keep_of_log (j a b : Nat) (s s' : Db) (evs : List Event) (h1 : s'.slots = s.slots) (h2 : s'.log = s.log ++ evs)
    (hav : ∀ e ∈ evs, Av j a b e) (h3 : s.fileLen ≤ s'.fileLen) (h4 : s.rfile.length ≤ s'.rfile.length) : Keep j a b s s' :=
  ⟨by rw [slot?_congr h1], ⟨evs, h2, hav⟩, h3, h4⟩

theorem av_single {j a b : Nat} {e : Event} (h : Av j a b e) : ∀ x ∈ [e], Av j a b x :=
  fun x hx => by rw [List.mem_singleton.mp hx]; exact h

theorem keep_of_eq (j a b : Nat) (s s' : Db) (h1 : s'.slots = s.slots) (h2 : s'.log = s.log) (h3 : s'.fileLen = s.fileLen)
    (h4 : s'.rfile = s.rfile) : Keep j a b s s' :=
  keep_of_log j a b s s' [] h1 (by rw [h2, List.append_nil]) (fun _ h => nomatch h) (Nat.le_of_eq h3.symm)
    (Nat.le_of_eq (congrArg List.length h4.symm))

theorem keep_emit (j a b : Nat) (s : Db) (e : Event) (h : Av j a b e) : Keep j a b s (s.emit e) :=
  keep_of_log j a b s _ [e] rfl rfl (av_single h) (Nat.le_refl _) (Nat.le_refl _)

theorem keep_setSlot_ne (j a b : Nat) (s : Db) (idx : Nat) (o : Option Slot) (hj : j ≠ idx) : Keep j a b s (s.setSlot idx o) :=
  ⟨by rw [slot?_set_ne (t := s.setSlot idx o) rfl hj], ⟨[], (List.append_nil _).symm, fun _ h => nomatch h⟩, Nat.le_refl _, Nat.le_refl _⟩

theorem keep_setSlot_md (j a b : Nat) (s : Db) (idx : Nat) (old new : Slot) (hs : s.slot? idx = some old) (hm : new.md = old.md) :
    Keep j a b s (s.setSlot idx (some new)) := by
  refine ⟨?_, ⟨[], (List.append_nil _).symm, fun _ h => nomatch h⟩, Nat.le_refl _, Nat.le_refl _⟩
  by_cases hj : j = idx
  · subst hj
    rw [slot?_set_self (t := s.setSlot j (some new)) rfl (slot?_lt hs), hs, Option.map_some, Option.map_some, hm]
  · rw [slot?_set_ne (t := s.setSlot idx (some new)) rfl hj]

theorem keep_writeIfDirty_ne (j a b : Nat) (s : Db) (idx : Nat) (sl : Slot) (hj : j ≠ idx) : Keep j a b s (s.writeIfDirty idx sl) := by
  rw [writeIfDirty_eq]
  refine ⟨by rw [slot?_set_ne (s := s) rfl hj], ⟨_, rfl, fun e he => ?_⟩, Nat.le_refl _, ?_⟩
  · split at he
    · rw [List.mem_singleton.mp he]; exact Ne.symm hj
    · exact nomatch he
  · show s.rfile.length ≤ (if sl.st = .needsWrite then s.rfile.set idx (some sl.md) else s.rfile).length
    split
    · rw [List.length_set]; exact Nat.le_refl _
    · exact Nat.le_refl _

theorem keep_dataWrite (j a b : Nat) (s s' : Db) (off : Nat) (d : List UInt8) (h : s.dataWrite off d = some s')
    (hav : off + d.length ≤ a ∨ b ≤ off) : Keep j a b s s' := by
  obtain ⟨m, _, rfl⟩ := dataWrite_eq_some h
  exact keep_of_log j a b s _ [_] rfl rfl (av_single hav) (Nat.le_refl _) (Nat.le_refl _)

theorem keep_setMinLen (j a b : Nat) (s : Db) (n : Nat) (hb : b ≤ s.fileLen) : Keep j a b s (s.setMinLen n) := by
  rcases setMinLen_eq s n with ⟨_, e⟩ | ⟨k, hk, _, e⟩
  · rw [e]; exact Keep.refl _ _ _ _
  · rw [e]
    exact keep_of_log j a b s _ [_] rfl rfl (av_single (Nat.le_trans hb (Nat.le_of_lt hk))) (Nat.le_of_lt hk) (Nat.le_refl _)

theorem keep_regionsSetMinSlots (j a b : Nat) (s : Db) (n : Nat) (hjr : j < s.rfile.length) : Keep j a b s (s.regionsSetMinSlots n) := by
  rcases regionsSetMinSlots_eq s n with ⟨_, e⟩ | ⟨hlt, e⟩
  · rw [e]; exact Keep.refl _ _ _ _
  · rw [e]
    refine keep_of_log j a b s _ [_] rfl rfl (av_single ?_) (Nat.le_refl _) (by simp only [List.length_append]; exact Nat.le_add_right _ _)
    exact Nat.mul_le_mul_right _ (Nat.le_trans hjr (Nat.le_of_lt hlt))

theorem keep_dataCopy (j a b : Nat) (s s' : Db) (src dst n : Nat) (h : s.dataCopy src dst n = .ok s')
    (hav : dst + n ≤ a ∨ b ≤ dst) : Keep j a b s s' := by
  rcases dataCopy_ok h with ⟨_, rfl⟩ | ⟨_, hin, hw⟩
  · exact Keep.refl _ _ _ _
  · exact keep_dataWrite j a b s s' dst _ hw (by rw [length_slice s.mem src n hin]; exact hav)

theorem keep_punchIfData (j a b : Nat) (acc : Db × Nat) (off len : Nat) (hav : off + len ≤ a ∨ b ≤ off) :
    Keep j a b acc.1 (punchIfData acc off len).1 := by
  rcases punchIfData_eq acc off len with e | e
  · rw [e]; exact Keep.refl _ _ _ _
  · rw [e]; exact keep_of_log j a b acc.1 _ [_] rfl rfl (av_single hav) (Nat.le_refl _) (Nat.le_refl _)

theorem md_of_keep {j a b : Nat} {s s' : Db} (h : Keep j a b s s') (slj : Slot) (hs : s.slot? j = some slj) :
    ∃ slj', s'.slot? j = some slj' ∧ slj'.md = slj.md :=
  Option.map_eq_some_iff.mp (h.1.trans (congrArg (Option.map (·.md)) hs))

/-- the bookkeeping of a write to slot `idx` that stores data inside `[A, A+N)` only: the other slots and the metadata file are as
in `s`, and to every other slot `j` and every byte range `[a, b)` of the file that the window does not meet it is invisible -/
def WPre (idx A N : Nat) (s t : Db) : Prop :=
  Oth s t idx ∧ ∀ j a b, j ≠ idx → (A + N ≤ a ∨ b ≤ A) → b ≤ s.fileLen → Keep j a b s t

theorem WPre.refl (idx A N : Nat) (s : Db) : WPre idx A N s s := ⟨Oth.refl s idx, fun _ _ _ _ _ _ => Keep.refl _ _ _ _⟩

theorem WPre.trans {idx A N : Nat} {s t u : Db} (h1 : WPre idx A N s t) (h2 : WPre idx A N t u) : WPre idx A N s u :=
  ⟨h1.1.trans h2.1, fun j a b hj hw hb =>
    (h1.2 j a b hj hw hb).trans (h2.2 j a b hj hw (Nat.le_trans hb (h1.2 j a b hj hw hb).2.2.1))⟩

theorem wpre_layoutOnly (idx A N : Nat) (s t : Db) (h : LayoutOnly s t) : WPre idx A N s t :=
  ⟨oth_of_eq s t idx h.2.2.1 h.2.2.2.1, fun j a b _ _ _ => keep_of_eq j a b s t h.2.2.1 h.2.2.2.2 h.1 h.2.2.2.1⟩

theorem wpre_setSlot (idx A N : Nat) (s : Db) (o : Option Slot) : WPre idx A N s (s.setSlot idx o) :=
  ⟨⟨List.length_set, fun _ hj => slot?_set_ne (t := s.setSlot idx o) rfl hj, rfl⟩, fun j a b hj _ _ => keep_setSlot_ne j a b s idx o hj⟩

theorem wpre_setMinLen (idx A N : Nat) (s : Db) (n : Nat) : WPre idx A N s (s.setMinLen n) :=
  ⟨oth_of_eq _ _ idx (setMinLen_rest s n).1 (setMinLen_rest s n).2.1, fun j a b _ _ hb => keep_setMinLen j a b s n hb⟩

theorem wpre_dataWrite (idx A N : Nat) (s s' : Db) (off : Nat) (d : List UInt8) (h : s.dataWrite off d = some s')
    (h1 : A ≤ off) (h2 : off + d.length ≤ A + N) : WPre idx A N s s' :=
  ⟨oth_of_eq _ _ idx (dataWrite_frame h).1 (dataWrite_frame h).2, fun j a b _ hw _ => keep_dataWrite j a b s s' off d h (by omega)⟩

theorem wpre_dataCopy (idx A N : Nat) (s s' : Db) (src dst n : Nat) (h : s.dataCopy src dst n = .ok s')
    (h1 : A ≤ dst) (h2 : dst + n ≤ A + N) : WPre idx A N s s' :=
  ⟨oth_of_eq _ _ idx (dataCopy_frame h).1 (dataCopy_frame h).2, fun j a b _ hw _ => keep_dataCopy j a b s s' src dst n h (by omega)⟩

theorem wpre_placeRelocation (idx A N : Nat) (s p : Db) (nr ns : Nat) (hp : s.placeRelocation nr = .ok (p, ns)) : WPre idx A N s p := by
  obtain ⟨q, n, hq, rfl⟩ := placeRelocation_rest hp
  exact (wpre_layoutOnly idx A N s q hq).trans (wpre_setMinLen idx A N q n)

/-- how a write to slot `idx` (holding `sl`) ends in the state `t` its bookkeeping reached: nothing more happens (a refusal that
left the slot alone, or a panic on the way); the slot is stored by `write_if_dirty`, changed by setters only and under its old
name; or only its dirty bounds are widened, over bytes below its length -/
inductive WEnd (idx : Nat) (sl : Slot) (t : Db) : Db × Out → Prop
  | stop (o : Out) : IsPanic o ∨ t.slot? idx = some sl → WEnd idx sl t (t, o)
  | store (X : Slot) : SKept sl X → X.md.id = sl.md.id → WEnd idx sl t (t.writeIfDirty idx X, .ok)
  | mark (a b : Nat) : a + b ≤ sl.md.len → WEnd idx sl t (t.setSlot idx (some (markDirty sl a b)), .ok)

theorem keep_wend (j a b idx : Nat) (sl : Slot) (s t : Db) (r : Db × Out) (hj : j ≠ idx) (k : Keep j a b s t)
    (he : WEnd idx sl t r) : Keep j a b s r.1 := by
  cases he with
  | stop o _ => exact k
  | store X _ _ => exact k.trans (keep_writeIfDirty_ne j a b t idx X hj)
  | mark x y _ => exact k.trans (keep_setSlot_ne j a b t idx _ hj)

theorem wcase_fits (s : Db) (idx : Nat) (sl : Slot) (d : List UInt8) (wo nl : Nat)
    (h1 : wo + d.length ≤ nl) (h2 : nl ≤ sl.md.reserved) :
    ∃ t, WPre idx sl.md.start sl.md.reserved s t ∧ WEnd idx sl t (s.writeFits idx sl d wo nl) := by
  generalize hr : s.writeFits idx sl d wo nl = r
  obtain ⟨t, o⟩ := r
  rcases writeFits_spec hr with ⟨_, rfl, rfl⟩ | ⟨s1, hw, rfl, ⟨_, rfl⟩ | ⟨hn, rfl⟩⟩
  · exact ⟨t, WPre.refl _ _ _ t, .stop _ (Or.inl trivial)⟩
  · exact ⟨s1, wpre_dataWrite idx _ _ s s1 _ d hw (Nat.le_add_right _ _) (by omega),
      .store _ ((skept_markDirty sl wo d.length).trans (skept_metaSetLen _ nl)) (by rw [metaSetLen_md, markDirty_md])⟩
  · exact ⟨s1, wpre_dataWrite idx _ _ s s1 _ d hw (Nat.le_add_right _ _) (by omega), .mark wo d.length (by omega)⟩

theorem wcase_tail {idx A N : Nat} {s s2 t : Db} {o : Out} {sl X : Slot} {off : Nat} {d : List UInt8} {wo nl : Nat}
    (k : WPre idx A N s s2) (hk : SKept sl X) (hid : X.md.id = sl.md.id) (h1 : A ≤ off) (h2 : off + d.length ≤ A + N)
    (hw : WriteTail s2 idx X off d wo nl t o) : ∃ t', WPre idx A N s t' ∧ WEnd idx sl t' (t, o) := by
  rcases hw with ⟨_, rfl, rfl⟩ | ⟨s3, hw, rfl, rfl⟩
  · exact ⟨t, k, .stop _ (Or.inl trivial)⟩
  · refine ⟨s3, k.trans (wpre_dataWrite idx A N s2 s3 off d hw h1 h2), ?_⟩
    rw [finishWrite_eq]
    exact .store _ ((hk.trans (skept_markDirty X wo d.length)).trans (skept_metaSetLen _ nl))
      (by rw [metaSetLen_md, markDirty_md]; exact hid)

theorem wcase_extendLast (s : Db) (idx : Nat) (sl : Slot) (d : List UInt8) (wo nl nr : Nat)
    (h1 : wo + d.length ≤ nl) (h2 : nl ≤ nr) :
    ∃ t, WPre idx sl.md.start nr s t ∧ WEnd idx sl t (s.writeExtendLast idx sl d wo nl nr) := by
  generalize hr : s.writeExtendLast idx sl d wo nl nr = r
  obtain ⟨t, o⟩ := r
  rcases writeExtendLast_spec hr with ⟨_, rfl, rfl⟩ | ⟨_, hw⟩
  · exact ⟨t, WPre.refl _ _ _ t, .stop _ (Or.inl trivial)⟩
  · exact wcase_tail ((wpre_setSlot idx _ _ s _).trans (wpre_setMinLen idx _ _ _ _)) (skept_metaSetReserved sl nr)
      (by rw [metaSetReserved_md]) (Nat.le_add_right _ _) (by omega) hw

theorem wcase_expand (s : Db) (idx : Nat) (sl : Slot) (d : List UInt8) (wo nl nr : Nat) (hs : s.slot? idx = some sl)
    (h1 : wo + d.length ≤ nl) (h2 : nl ≤ nr) :
    ∃ t, WPre idx sl.md.start nr s t ∧ WEnd idx sl t (s.writeExpand idx sl d wo nl nr) := by
  generalize hr : s.writeExpand idx sl d wo nl nr = r
  obtain ⟨t, o⟩ := r
  rcases writeExpand_spec hr with ⟨e, _, rfl, rfl⟩ | ⟨hs', _, ⟨_, rfl, rfl⟩ | ⟨_, hw⟩⟩
  · exact ⟨t, WPre.refl _ _ _ t, .stop _ (Or.inr hs)⟩
  · refine ⟨_, ?_, .stop _ (Or.inl trivial)⟩
    exact wpre_layoutOnly idx _ _ s _ ⟨rfl, rfl, rfl, rfl, rfl⟩
  · exact wcase_tail ((wpre_layoutOnly idx _ _ s { s with holes := hs' } ⟨rfl, rfl, rfl, rfl, rfl⟩).trans (wpre_setSlot idx _ _ _ _))
      (skept_metaSetReserved sl nr) (by rw [metaSetReserved_md]) (Nat.le_add_right _ _) (by omega) hw

/-- the window, at the new place `ns`, has to take the `cl` bytes copied and the write, which ends below `nr`: hence `max cl nr`.
Under the invariants `cl ≤ nr`, and the window is the reservation (`writeWith_foot`). -/
theorem wcase_relocate (p : Db) (idx : Nat) (sl : Slot) (d : List UInt8) (wo nl nr cl ns : Nat) (hs : p.slot? idx = some sl)
    (h1 : wo + d.length ≤ nl) (h2 : nl ≤ nr) :
    ∃ t, WPre idx ns (max cl nr) p t ∧ WEnd idx sl t (p.writeRelocate idx sl d wo nl nr cl ns) := by
  generalize hr : p.writeRelocate idx sl d wo nl nr cl ns = r
  obtain ⟨t, o⟩ := r
  rcases writeRelocate_spec hr with ⟨o', _, rfl, rfl⟩ | ⟨s1, hc, hrest⟩
  · exact ⟨t, WPre.refl _ _ _ t, .stop _ (Or.inr hs)⟩
  have k1 := wpre_dataCopy idx ns (max cl nr) p s1 _ _ _ hc (Nat.le_refl _) (by omega)
  rcases hrest with ⟨_, rfl, rfl⟩ | ⟨s2, hw, hrest⟩
  · exact ⟨t, k1, .stop _ (Or.inl trivial)⟩
  have k2 := k1.trans (wpre_dataWrite idx ns (max cl nr) s1 s2 _ d hw (Nat.le_add_right _ _) (by omega))
  have hs2 : s2.slots = p.slots := (dataWrite_frame hw).1.trans (dataCopy_frame hc).1
  rcases hrest with ⟨_, rfl, rfl⟩ | ⟨_, q, hq, hrest⟩
  · refine ⟨_, ?_, .stop _ (Or.inr ((slot?_congr (t := { s2 with regions := alErase s2.regions sl.md.start }) hs2 idx).trans hs))⟩
    exact k2.trans (wpre_layoutOnly idx _ _ s2 _ ⟨rfl, rfl, rfl, rfl, rfl⟩)
  have k3 : WPre idx ns (max cl nr) p q := by
    rw [hq]; exact k2.trans (wpre_layoutOnly idx _ _ s2 _ ⟨rfl, rfl, rfl, rfl, rfl⟩)
  rcases hrest with ⟨_, rfl, rfl⟩ | ⟨_, ⟨_, rfl, rfl⟩ | ⟨_, rfl, rfl⟩⟩
  · exact ⟨t, k3, .stop _ (Or.inl trivial)⟩
  · exact ⟨t, k3, .stop _ (Or.inl trivial)⟩
  · exact ⟨q, k3, .store _ ((((skept_markDirty sl 0 nl).trans (skept_metaSetStart _ ns)).trans (skept_metaSetReserved _ nr)).trans
      (skept_metaSetLen _ nl)) (by rw [metaSetLen_md, metaSetReserved_md, metaSetStart_md, markDirty_md])⟩

/-- `wpre_placeRelocation` read for a slot that is not `j` and an empty window at `b`: placing a relocation touches no slot -/
theorem keep_placeRelocation (j a b : Nat) (s s' : Db) (nr ns : Nat) (hb : b ≤ s.fileLen) (hp : s.placeRelocation nr = .ok (s', ns)) :
    Keep j a b s s' :=
  (wpre_placeRelocation (j + 1) b 0 s s' nr ns hp).2 j a b (Nat.ne_of_lt (Nat.lt_succ_self j)) (Or.inr (Nat.le_refl _)) hb

/-- what a write to slot `idx` (holding `sl`) with the result `r` did: bookkeeping that stores inside one window only, then one of
the three ends; and under the layout invariant the window is apart from every other live region -/
def WFoot (s : Db) (idx : Nat) (sl : Slot) (r : Db × Out) : Prop :=
  ∃ t A N, WPre idx A N s t ∧ WEnd idx sl t r ∧
    (LInv s → sl.md.len ≤ sl.md.reserved → ∀ j slj, j ≠ idx → s.slot? j = some slj →
      A + N ≤ slj.md.start ∨ slj.md.start + slj.md.reserved ≤ A)

/-- the window is the region's own extent (path 1), the extent grown at the end of the file (2) or into the hole behind it (3),
or the reservation taken for the move (4) -/
theorem writeWith_foot (s : Db) (idx : Nat) (sl : Slot) (d : List UInt8) (at_ : Option Nat) (tr : Bool) (hs : s.slot? idx = some sl) :
    WFoot s idx sl (s.writeWith idx d at_ tr) := by
  have h1 := (newLen_bounds at_ tr sl.md.len d.length).1
  have own : ∀ t r, WPre idx sl.md.start sl.md.reserved s t → WEnd idx sl t r → WFoot s idx sl r := fun t r k e =>
    ⟨t, _, _, k, e, fun hl _ j slj hj hsj => slots_apart s hl idx j sl slj (Ne.symm hj) hs hsj⟩
  refine Db.writeWith_cases (P := WFoot s idx sl) s idx d at_ tr (fun o => own s _ (WPre.refl _ _ _ s) (.stop o (Or.inr hs))) ?_ ?_
  · intro sl' hs' _ hfit
    cases hs'.symm.trans hs
    obtain ⟨t, k, e⟩ := wcase_fits s idx sl d _ _ h1 hfit
    exact own t _ k e
  · intro sl' nr hs' hoob _ h0 hg
    cases hs'.symm.trans hs
    have hge := growReserved_ge 64 _ _ _ hg
    have hneed := growReserved_need 64 _ _ _ hg
    refine ⟨fun hlast => ?_, fun _ hce => ?_, fun _ _ p ns hp => ?_⟩
    · obtain ⟨t, k, e⟩ := wcase_extendLast s idx sl d _ _ nr h1 hneed
      exact ⟨t, _, _, k, e, fun hl _ j slj hj hsj => Or.inr (last_after s hl idx j sl slj hs hsj hj hlast)⟩
    · obtain ⟨t, k, e⟩ := wcase_expand s idx sl d _ _ nr hs h1 hneed
      refine ⟨t, _, _, k, e, fun hl _ j slj hj hsj => ?_⟩
      obtain ⟨gap, hgp, hgap⟩ := canExpand_true hce
      have hh := hole_apart s hl _ (mem_of_alGet s.holes _ gap hgp) j slj hsj
      have hap := slots_apart s hl j idx slj sl hj hsj hs
      have hpj := slot_pos s hl j slj hsj
      omega
    · have hps := (placeRelocation_frame hp).1
      obtain ⟨t, k, e⟩ := wcase_relocate p idx sl d _ _ nr (if tr = true then at_.getD sl.md.len else sl.md.len) ns
        ((slot?_congr hps idx).trans hs) h1 hneed
      refine ⟨t, _, _, (wpre_placeRelocation idx _ _ s p nr ns hp).trans k, e, fun hl hb j slj hj hsj => ?_⟩
      -- the copy takes no more than the region holds, so the window is the reservation
      have hcl := (copyLen_spec at_ tr sl.md.len d.length (getD_le_of_oob hoob)).1
      obtain ⟨p1, p2, _, _⟩ := linv_placeRelocation s p hl nr ns (by omega) hp
      have hra := reserved_apart p p1 (ns, nr) p2 j slj ((slot?_congr hps j).trans hsj)
      rw [Nat.max_eq_right (by omega)]
      exact hra

end AnyDB.C05r
