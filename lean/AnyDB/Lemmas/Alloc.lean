/-! The free list of rawdb's layout as a list of extents.  `promoteOne` is one iteration of `promote_pending_holes`: the extent
joins the hole that ends where it starts and the hole that starts where it ends.  `HInv` (positive sizes, pairwise disjoint,
no two holes adjacent) is kept, and what is covered grows by exactly the promoted extent. -/
namespace AnyDB.Alloc

structure Ext where
  start : Nat
  size : Nat
deriving Repr, DecidableEq

def Ext.stop (e : Ext) : Nat := e.start + e.size

def disj (a b : Ext) : Prop := a.stop ≤ b.start ∨ b.stop ≤ a.start

/-- hole with the greatest start strictly below `s` (BTreeMap::range(..s).next_back()) -/
def prevHole : List Ext → Nat → Option Ext
  | [], _ => none
  | h :: t, s =>
    match prevHole t s with
    | none => if h.start < s then some h else none
    | some a => if h.start < s ∧ a.start < h.start then some h else some a

def findHole (hs : List Ext) (s : Nat) : Option Ext := hs.find? (·.start == s)
def eraseHole (hs : List Ext) (s : Nat) : List Ext := hs.filter (·.start != s)

/-- one iteration of the loop body of `promote_pending_holes` -/
def promoteOne (hs : List Ext) (p : Ext) : List Ext :=
  let r1 : List Ext × Nat × Nat :=
    match prevHole hs p.start with
    | some h => if h.start + h.size = p.start then (eraseHole hs h.start, h.start, p.size + h.size) else (hs, p.start, p.size)
    | none => (hs, p.start, p.size)
  let r2 : List Ext × Nat :=
    match findHole r1.1 (r1.2.1 + r1.2.2) with
    | some a => (eraseHole r1.1 (r1.2.1 + r1.2.2), r1.2.2 + a.size)
    | none => (r1.1, r1.2.2)
  r2.1 ++ [⟨r1.2.1, r2.2⟩]

/-- the whole batch of pending holes, in list order, as the BTreeMap iterates -/
def promote (hs : List Ext) (pending : List Ext) : List Ext := pending.foldl promoteOne hs

theorem prevHole_none {hs : List Ext} {s : Nat} (e : prevHole hs s = none) :
    ∀ h ∈ hs, ¬ h.start < s := by
  induction hs with
  | nil => simp
  | cons x t ih =>
    simp only [prevHole] at e
    cases hp : prevHole t s with
    | none =>
      simp only [hp] at e
      refine List.forall_mem_cons.mpr ⟨fun hx => ?_, ih hp⟩
      rw [if_pos hx] at e; cases e
    | some a => simp only [hp] at e; split at e <;> cases e

theorem prevHole_some {hs : List Ext} {s : Nat} {h : Ext} (e : prevHole hs s = some h) :
    h ∈ hs ∧ h.start < s ∧ ∀ h' ∈ hs, h'.start < s → h'.start ≤ h.start := by
  induction hs generalizing h with
  | nil => cases e
  | cons x t ih =>
    simp only [prevHole] at e
    cases hp : prevHole t s with
    | none =>
      simp only [hp] at e
      by_cases hx : x.start < s
      · rw [if_pos hx] at e; cases e
        exact ⟨List.mem_cons_self .., hx, List.forall_mem_cons.mpr
          ⟨fun _ => Nat.le_refl _, fun h' hm hlt => absurd hlt (prevHole_none hp h' hm)⟩⟩
      · rw [if_neg hx] at e; cases e
    | some a =>
      obtain ⟨ha1, ha2, ha3⟩ := ih hp
      simp only [hp] at e
      by_cases hc : x.start < s ∧ a.start < x.start
      · rw [if_pos hc] at e; cases e
        exact ⟨List.mem_cons_self .., hc.1, List.forall_mem_cons.mpr
          ⟨fun _ => Nat.le_refl _, fun h' hm hlt => by have := ha3 h' hm hlt; omega⟩⟩
      · rw [if_neg hc] at e; cases e
        exact ⟨List.mem_cons_of_mem _ ha1, ha2, List.forall_mem_cons.mpr ⟨fun hlt => by omega, ha3⟩⟩

theorem findHole_some {hs : List Ext} {s : Nat} {a : Ext} (e : findHole hs s = some a) :
    a ∈ hs ∧ a.start = s := by
  unfold findHole at e
  exact ⟨List.mem_of_find?_eq_some e, by have := List.find?_some e; simpa using this⟩

theorem findHole_none {hs : List Ext} {s : Nat} (e : findHole hs s = none) :
    ∀ h ∈ hs, h.start ≠ s := by
  unfold findHole at e
  intro h hm
  have := List.find?_eq_none.mp e h hm
  simpa using this

theorem mem_eraseHole {hs : List Ext} {s : Nat} {x : Ext} :
    x ∈ eraseHole hs s ↔ x ∈ hs ∧ x.start ≠ s := by
  simp [eraseHole]

structure HInv (hs : List Ext) : Prop where
  pos : ∀ a ∈ hs, 0 < a.size
  dj : ∀ a ∈ hs, ∀ b ∈ hs, a = b ∨ disj a b
  mg : ∀ a ∈ hs, ∀ b ∈ hs, a.stop ≠ b.start

def inExt (e : Ext) (x : Nat) : Prop := e.start ≤ x ∧ x < e.stop
def cov (l : List Ext) (x : Nat) : Prop := ∃ e ∈ l, inExt e x

theorem start_inj {hs : List Ext} (hI : HInv hs) {a b : Ext} (ha : a ∈ hs) (hb : b ∈ hs)
    (h : a.start = b.start) : a = b := by
  rcases hI.dj a ha b hb with e | d
  · exact e
  · have := hI.pos a ha; have := hI.pos b hb
    simp [disj, Ext.stop] at d; omega

theorem prevHole_of_stop {hs : List Ext} (hI : HInv hs) {a : Ext} (ha : a ∈ hs) : prevHole hs a.stop = some a := by
  have hpa := hI.pos a ha
  have hlt : a.start < a.stop := Nat.lt_add_of_pos_right hpa
  cases hq : prevHole hs a.stop with
  | none => exact absurd hlt (prevHole_none hq a ha)
  | some h =>
    obtain ⟨hm, hlt', hmax⟩ := prevHole_some hq
    have := hmax a ha hlt
    rcases hI.dj a ha h hm with rfl | d
    · rfl
    · have := hI.pos h hm; simp only [disj, Ext.stop] at d hlt'; omega

theorem HInv.sub {l l' : List Ext} (h : HInv l) (hs : ∀ x ∈ l', x ∈ l) : HInv l' :=
  ⟨fun a ha => h.pos a (hs a ha), fun a ha b hb => h.dj a (hs a ha) b (hs b hb),
   fun a ha b hb => h.mg a (hs a ha) b (hs b hb)⟩

/-- On the way from `hs`, `p` to `promoteOne hs p`: a free list `l` and, still beside it, the extent `q` that will be
inserted.  Together they cover what `hs` and `p` cover, and keep clear of whatever those kept clear of. -/
structure Stage (hs : List Ext) (p : Ext) (l : List Ext) (q : Ext) : Prop where
  inv : HInv l
  pos : 0 < q.size
  apart : ∀ a ∈ l, disj a q
  same : ∀ x, cov l x ∨ inExt q x ↔ cov hs x ∨ inExt p x
  frame : ∀ r : Ext, 0 < r.size → (∀ a ∈ hs, disj a r) → disj p r → (∀ a ∈ l, disj a r) ∧ disj q r

theorem Stage.absorb {hs l : List Ext} {p q h m : Ext} (S : Stage hs p l q) (hm : h ∈ l)
    (hj : h.stop = q.start ∧ m = ⟨h.start, q.size + h.size⟩ ∨ q.stop = h.start ∧ m = ⟨q.start, q.size + h.size⟩) :
    Stage hs p (eraseHole l h.start) m := by
  have hq := S.pos
  have hsub : ∀ x ∈ eraseHole l h.start, x ∈ l := fun x hx => (mem_eraseHole.mp hx).1
  have hmx : ∀ x, inExt m x ↔ inExt h x ∨ inExt q x := by
    intro x
    rcases hj with ⟨e, rfl⟩ | ⟨e, rfl⟩ <;> simp only [inExt, Ext.stop] at e ⊢ <;> omega
  have key : ∀ r : Ext, 0 < r.size → disj h r → disj q r → disj m r := by
    intro r hr h1 h2
    rcases hj with ⟨e, rfl⟩ | ⟨e, rfl⟩ <;> simp only [disj, Ext.stop] at e h1 h2 ⊢ <;> omega
  refine ⟨S.inv.sub hsub, ?_, ?_, ?_, ?_⟩
  · rcases hj with ⟨_, rfl⟩ | ⟨_, rfl⟩ <;> exact Nat.add_pos_left hq _
  · intro a ha
    obtain ⟨hal, hne⟩ := mem_eraseHole.mp ha
    have h2 : disj a h := (S.inv.dj a hal h hm).resolve_left (fun e => hne (by rw [e]))
    exact (key a (S.inv.pos a hal) h2.symm (S.apart a hal).symm).symm
  · intro x
    rw [← S.same x, hmx x]
    constructor
    · rintro (⟨e, he, hx⟩ | hx | hx)
      · exact Or.inl ⟨e, hsub e he, hx⟩
      · exact Or.inl ⟨h, hm, hx⟩
      · exact Or.inr hx
    · rintro (⟨e, he, hx⟩ | hx)
      · by_cases heq : e = h
        · exact Or.inr (Or.inl (heq ▸ hx))
        · exact Or.inl ⟨e, mem_eraseHole.mpr ⟨he, fun hs => heq (start_inj S.inv he hm hs)⟩, hx⟩
      · exact Or.inr (Or.inr hx)
  · intro r hr h1 h2
    obtain ⟨f1, f2⟩ := S.frame r hr h1 h2
    exact ⟨fun a ha => f1 a (hsub a ha), key r hr (f1 h hm) f2⟩

theorem Stage.close {hs l : List Ext} {p q : Ext} (S : Stage hs p l q) (hl : ∀ a ∈ l, a.stop ≠ q.start)
    (hr : ∀ a ∈ l, q.stop ≠ a.start) :
    HInv (l ++ [q]) ∧ (∀ x, cov (l ++ [q]) x ↔ cov hs x ∨ inExt p x) ∧
    (∀ r : Ext, 0 < r.size → (∀ a ∈ hs, disj a r) → disj p r → ∀ a ∈ l ++ [q], disj a r) := by
  have hmem : ∀ {a}, a ∈ l ++ [q] → a ∈ l ∨ a = q := fun h => by simpa using h
  refine ⟨⟨?_, ?_, ?_⟩, ?_, ?_⟩
  · intro a ha
    rcases hmem ha with h | rfl
    · exact S.inv.pos a h
    · exact S.pos
  · intro a ha b hb
    rcases hmem ha with h1 | rfl <;> rcases hmem hb with h2 | rfl
    · exact S.inv.dj a h1 b h2
    · exact Or.inr (S.apart a h1)
    · exact Or.inr (S.apart b h2).symm
    · exact Or.inl rfl
  · intro a ha b hb
    rcases hmem ha with h1 | rfl <;> rcases hmem hb with h2 | rfl
    · exact S.inv.mg a h1 b h2
    · exact hl a h1
    · exact hr b h2
    · have := S.pos; simp only [Ext.stop]; omega
  · intro x
    rw [← S.same x]
    simp only [cov, List.mem_append, List.mem_singleton, or_and_right, exists_or, exists_eq_left]
  · intro r hr' h1 h2 a ha
    obtain ⟨f1, f2⟩ := S.frame r hr' h1 h2
    rcases hmem ha with h | rfl
    · exact f1 a h
    · exact f2

/-- `r2` is the second half of the body of `promoteOne`, word for word, so that `unfold promoteOne` leaves this goal. -/
theorem Stage.finish {hs l : List Ext} {p q : Ext} (S : Stage hs p l q) (hl : ∀ a ∈ l, a.stop ≠ q.start) :
    let r2 : List Ext × Nat := match findHole l (q.start + q.size) with
      | some a => (eraseHole l (q.start + q.size), q.size + a.size)
      | none => (l, q.size)
    HInv (r2.1 ++ [⟨q.start, r2.2⟩]) ∧ (∀ x, cov (r2.1 ++ [⟨q.start, r2.2⟩]) x ↔ cov hs x ∨ inExt p x) ∧
    (∀ r : Ext, 0 < r.size → (∀ a ∈ hs, disj a r) → disj p r → ∀ a ∈ r2.1 ++ [⟨q.start, r2.2⟩], disj a r) := by
  cases hf : findHole l (q.start + q.size) with
  | none => exact S.close hl (fun a ha e => findHole_none hf a ha e.symm)
  | some a =>
    obtain ⟨ham, hast⟩ := findHole_some hf
    have S2 := S.absorb (m := ⟨q.start, q.size + a.size⟩) ham (Or.inr ⟨hast.symm, rfl⟩)
    rw [hast] at S2
    refine S2.close (fun b hb => hl b (mem_eraseHole.mp hb).1) (fun b hb e => ?_)
    have := S.inv.mg a ham b (mem_eraseHole.mp hb).1
    simp only [Ext.stop] at this e; omega

theorem promoteOne_inv (hs : List Ext) (p : Ext) (hI : HInv hs) (hp : 0 < p.size)
    (hd : ∀ a ∈ hs, disj a p) :
    HInv (promoteOne hs p) ∧
    (∀ x, cov (promoteOne hs p) x ↔ cov hs x ∨ inExt p x) ∧
    (∀ q : Ext, 0 < q.size → (∀ a ∈ hs, disj a q) → disj p q → ∀ a ∈ promoteOne hs p, disj a q) := by
  have S : Stage hs p hs p := ⟨hI, hp, hd, fun _ => Iff.rfl, fun r _ h1 h2 => ⟨h1, h2⟩⟩
  have hleft : ∀ a ∈ hs, a.stop = p.start → prevHole hs p.start = some a := fun a ha e => e ▸ prevHole_of_stop hI ha
  unfold promoteOne
  cases hq : prevHole hs p.start with
  | none => exact S.finish (fun a ha e => nomatch (hleft a ha e).symm.trans hq)
  | some h =>
    have hm := (prevHole_some hq).1
    by_cases hadj : h.start + h.size = p.start
    · simp only [hadj, if_true]
      exact (S.absorb (m := ⟨h.start, p.size + h.size⟩) hm (Or.inl ⟨hadj, rfl⟩)).finish
        (fun a ha => hI.mg a (mem_eraseHole.mp ha).1 h hm)
    · simp only [hadj, if_false]
      exact S.finish (fun a ha e => hadj (Option.some.inj ((hleft a ha e).symm.trans hq) ▸ e))

theorem promote_inv (pending hs : List Ext) (hI : HInv hs)
    (hpp : ∀ p ∈ pending, 0 < p.size)
    (hph : ∀ p ∈ pending, ∀ a ∈ hs, disj a p)
    (hpd : pending.Pairwise disj) :
    HInv (promote hs pending) ∧
    (∀ x, cov (promote hs pending) x ↔ cov hs x ∨ cov pending x) ∧
    (∀ q : Ext, 0 < q.size → (∀ a ∈ hs, disj a q) → (∀ p ∈ pending, disj p q) →
        ∀ a ∈ promote hs pending, disj a q) := by
  induction pending generalizing hs with
  | nil =>
    refine ⟨hI, ?_, ?_⟩
    · intro x; simp [promote, cov]
    · intro q _ hqs _ a ha; exact hqs a (by simpa [promote] using ha)
  | cons p t ih =>
    have hp : 0 < p.size := hpp p (by simp)
    have hd : ∀ a ∈ hs, disj a p := hph p (by simp)
    obtain ⟨hI1, hc1, hq1⟩ := promoteOne_inv hs p hI hp hd
    rw [List.pairwise_cons] at hpd
    obtain ⟨hpt, htt⟩ := hpd
    obtain ⟨hI2, hc2, hq2⟩ := ih (promoteOne hs p) hI1 (fun q hq => hpp q (by simp [hq]))
      (fun q hq => hq1 q (hpp q (by simp [hq])) (hph q (by simp [hq])) (hpt q hq)) htt
    refine ⟨hI2, ?_, ?_⟩
    · intro x
      rw [show promote hs (p :: t) = promote (promoteOne hs p) t from rfl, hc2 x, hc1 x]
      simp only [cov, List.mem_cons, or_and_right, exists_or, exists_eq_left, or_assoc]
    · intro q hq hqs hqp a ha
      exact hq2 q hq (hq1 q hq hqs (hqp p (by simp))) (fun r hr => hqp r (by simp [hr])) a ha

/-- Membership characterisation of `promoteOne`: the result is the old holes minus at most two
    (the one ending at `p.start`, the one starting at `p.stop`) plus one new hole spanning them. -/
theorem promoteOne_spec (hs : List Ext) (p : Ext) (hI : HInv hs) (hp : 0 < p.size)
    (hd : ∀ a ∈ hs, disj a p) :
    ∃ (N : Ext) (bef aft : Option Ext),
      (∀ b, bef = some b → b ∈ hs ∧ b.stop = p.start) ∧
      (bef = none → ∀ h ∈ hs, h.stop ≠ p.start) ∧
      (∀ a, aft = some a → a ∈ hs ∧ a.start = p.stop) ∧
      (aft = none → ∀ h ∈ hs, h.start ≠ p.stop) ∧
      N.start = (match bef with | some b => b.start | none => p.start) ∧
      N.stop = (match aft with | some a => a.stop | none => p.stop) ∧
      (∀ x, x ∈ promoteOne hs p ↔ x = N ∨ (x ∈ hs ∧ some x ≠ bef ∧ some x ≠ aft)) := by
  -- among holes, to differ from `b` is to start elsewhere
  have hne : ∀ {x b : Ext}, x ∈ hs → b ∈ hs → (x.start ≠ b.start ↔ some x ≠ some b) := fun hx hb =>
    not_congr ⟨fun e => congrArg some (start_inj hI hx hb e), fun e => Option.some.inj e ▸ rfl⟩
  have stage1 : ∃ (bef : Option Ext) (l1 : List Ext) (fs sz : Nat),
      (match prevHole hs p.start with
        | some h => if h.start + h.size = p.start then (eraseHole hs h.start, h.start, p.size + h.size) else (hs, p.start, p.size)
        | none => (hs, p.start, p.size)) = (l1, fs, sz) ∧
      (∀ b, bef = some b → b ∈ hs ∧ b.stop = p.start) ∧
      (bef = none → ∀ h ∈ hs, h.stop ≠ p.start) ∧
      fs = (match bef with | some b => b.start | none => p.start) ∧
      fs + sz = p.stop ∧
      (∀ x, x ∈ l1 ↔ x ∈ hs ∧ some x ≠ bef) := by
    by_cases hb : ∃ b ∈ hs, b.stop = p.start
    · obtain ⟨b, hm, hadj⟩ := hb
      rw [← hadj, prevHole_of_stop hI hm]
      refine ⟨some b, eraseHole hs b.start, b.start, p.size + b.size, if_pos rfl, ?_, nofun, rfl, ?_, fun x => ?_⟩
      · rintro _ ⟨⟩; exact ⟨hm, rfl⟩
      · simp only [Ext.stop] at hadj ⊢; omega
      · rw [mem_eraseHole]
        exact and_congr_right fun hx => hne hx hm
    · refine ⟨none, hs, p.start, p.size, ?_, nofun, fun _ h hm hst => hb ⟨h, hm, hst⟩, rfl, rfl, fun x => by simp⟩
      cases hq : prevHole hs p.start with
      | none => rfl
      | some h => exact if_neg fun hadj => hb ⟨h, (prevHole_some hq).1, hadj⟩
  obtain ⟨bef, l1, fs, sz, e1, hb1, hb2, hfs, hsum, hl1⟩ := stage1
  cases hf : findHole l1 (fs + sz) with
  | none =>
    refine ⟨⟨fs, sz⟩, bef, none, hb1, hb2, nofun, fun _ h hm hst => ?_, hfs, hsum, fun x => ?_⟩
    · refine findHole_none hf h ((hl1 h).mpr ⟨hm, fun e => ?_⟩) (hst.trans hsum.symm)
      -- as `bef`, `h` would end at `p.start` and start at `p.stop`
      have hbs := (hb1 h e.symm).2
      simp only [Ext.stop] at hbs hst
      omega
    · simp only [promoteOne, e1, hf, List.mem_append, List.mem_singleton, hl1 x, or_comm, ne_eq, reduceCtorEq,
        not_false_eq_true, and_true]
  | some a =>
    obtain ⟨ham, hast⟩ := findHole_some hf
    have ha := ((hl1 a).mp ham).1
    refine ⟨⟨fs, sz + a.size⟩, bef, some a, hb1, hb2, ?_, nofun, hfs, ?_, fun x => ?_⟩
    · rintro _ ⟨⟩; exact ⟨ha, hast.trans hsum⟩
    · simp only [Ext.stop]; omega
    · simp only [promoteOne, e1, hf, List.mem_append, List.mem_singleton, mem_eraseHole]
      rw [hl1 x, ← hast, and_assoc]
      exact or_comm.trans (or_congr_right (and_congr_right fun hx => and_congr_right fun _ => hne hx ha))

example : promote [⟨30,10⟩] [⟨10,10⟩, ⟨20,10⟩] = [⟨10,30⟩] := by decide

end AnyDB.Alloc
