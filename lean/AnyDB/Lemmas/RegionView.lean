import AnyDB.Lemmas.LayoutKeeps
/-!
The specification of C01 and the relation of a model state to it.

* The reference (`Ref`): one independent byte vector per region name, and what a request does to it (`refStep`, from `refFind`,
  `refOn`, `refWrite`/`refWriteE`, `refRetain`).  The harness keeps the same reference beside the real database, as a map by name
  (`RawEngine.refdb`, `harness/src/rawdb_engine.rs`); here it is a list indexed like the slot table, so that `create` can be said
  to fill the first free index.
* `viewAt s idx`: what slot `idx` of a model state shows to a reader, its name and its bytes; `Rel s r`: the state shows exactly the
  reference.  `RInv`, under which `Rel` is kept: the layout invariant (`LInv`) and contents inside reservation and file (`Bounds`).
* Two frames from which `Rel` and `RInv` of the next state follow (`QuietOff.rel`, `QuietOff.rel_set`): `MemFrame m m' a n`, the
  memory changed inside one window only; `QuietOff T s s'`, off the slots in `T` no metadata and no byte of a live region changed.
* What `LInv` gives about positions: live regions, holes and reservations are pairwise apart (`slots_apart`, `hole_apart`,
  `reserved_apart`), every other region lies before the last one (`last_after`), and what `punch_holes` may punch lies off every
  region's pages (`punchCand_apart`).
-/
namespace AnyDB.C01r
open Conc C02r Mem

abbrev Ref := List (Option (RegionId × List UInt8))

def refFind (r : Ref) (id : RegionId) : Option Nat :=
  r.findIdx? (fun o => match o with | some e => e.1 == id | none => false)

def refWrite (old : List UInt8) (at_ : Option Nat) (trunc : Bool) (d : List UInt8) : List UInt8 :=
  let wo := at_.getD old.length
  old.take wo ++ d ++ (if trunc then [] else old.drop (wo + d.length))

/-- apply `f` to the bytes of the region called `id` (nothing happens when there is none) -/
def refOn (r : Ref) (id : RegionId) (f : RegionId × List UInt8 → Option (RegionId × List UInt8)) : Ref :=
  match refFind r id with
  | none => r
  | some i => match r[i]?.join with
    | none => r
    | some e => r.set i (f e)

/-- one write on one region's byte vector: refused (nothing happens) when the offset lies beyond the end -/
def refWriteE (at_ : Option Nat) (trunc : Bool) (d : List UInt8) (e : RegionId × List UInt8) : Option (RegionId × List UInt8) :=
  if Db.outOfBounds at_ e.2.length then some e else some (e.1, refWrite e.2 at_ trunc d)

/-- the reference's `retain`: every region whose name is not kept disappears -/
def refRetain (r : Ref) (keep : List RegionId) : Ref :=
  r.map (fun o => match o with | some e => if keep.contains e.1 then some e else none | none => none)

/-- the reference model of C01: named, independent byte vectors; an operation touches the one entry it names -/
def refStep (r : Ref) : Op → Ref
  | .create id =>
    match refFind r id with
    | some _ => r
    | none => match r.findIdx? (·.isNone) with
      | some i => r.set i (some (id, []))
      | none => r ++ [some (id, [])]
  | .write id d => refOn r id (refWriteE none false d)
  | .writeAt id a d => refOn r id (refWriteE (some a) false d)
  | .truncateWrite id a d => refOn r id (refWriteE (some a) true d)
  | .truncate id n => refOn r id (fun e => if n > e.2.length then some e else some (e.1, e.2.take n))
  | .rename id n => if (refFind r n).isSome then r else refOn r id (fun e => some (n, e.2))
  | .remove id => refOn r id (fun _ => none)
  | .retain ids => refRetain r ids
  | _ => r

theorem refFind_lt (r : Ref) (id : RegionId) (i : Nat) (h : refFind r id = some i) : i < r.length := by
  unfold refFind at h
  exact (List.findIdx?_eq_some_iff_getElem.mp h).1

theorem refOn_none (r : Ref) (id : RegionId) (f) (h : refFind r id = none) : refOn r id f = r := by
  unfold refOn; rw [h]

theorem refOn_some (r : Ref) (id : RegionId) (f) (idx : Nat) (e : RegionId × List UInt8) (h : refFind r id = some idx)
    (he : r[idx]?.join = some e) : refOn r id f = r.set idx (f e) := by
  unfold refOn; rw [h]; simp only [he]

theorem refOn_other (r : Ref) (id : RegionId) (f) (i j : Nat) (h : refFind r id = some i) (hj : j ≠ i) :
    (refOn r id f)[j]? = r[j]? := by
  unfold refOn; rw [h]
  simp only
  split
  · rfl
  · rw [List.getElem?_set_ne (Ne.symm hj)]

theorem join_getElem?_append_none {α} (l : List (Option α)) (k i : Nat) : (l ++ List.replicate k none)[i]?.join = l[i]?.join := by
  by_cases h : i < l.length
  · rw [List.getElem?_append_left h]
  · rw [List.getElem?_append_right (Nat.le_of_not_lt h), List.getElem?_eq_none (l := l) (Nat.le_of_not_lt h), List.getElem?_replicate]
    split <;> rfl

/-- what region slot `idx` shows: its name and the bytes `[start, start+len)` as a reader sees them -/
def viewAt (s : Db) (idx : Nat) : Option (RegionId × List (Option UInt8)) :=
  (s.slot? idx).map (fun sl => (sl.md.id, s.mem.read sl.md.start sl.md.len))

def liftE (e : RegionId × List UInt8) : RegionId × List (Option UInt8) := (e.1, e.2.map some)

/-- the model state shows exactly the reference -/
def Rel (s : Db) (r : Ref) : Prop := r.length = s.slots.length ∧ ∀ idx, viewAt s idx = (r[idx]?.join).map liftE

/-- memory changes only inside `[a, a+n)`, and the file does not shrink -/
def MemFrame (m m' : Mem) (a n : Nat) : Prop :=
  m.size ≤ m'.size ∧ ∀ x, x < m.size → ¬(a ≤ x ∧ x < a + n) → m'.get? x = m.get? x

theorem MemFrame.refl (m : Mem) (a n : Nat) : MemFrame m m a n := ⟨Nat.le_refl _, fun _ _ _ => rfl⟩

theorem MemFrame.trans {m1 m2 m3 : Mem} {a n : Nat} (h1 : MemFrame m1 m2 a n) (h2 : MemFrame m2 m3 a n) : MemFrame m1 m3 a n :=
  ⟨Nat.le_trans h1.1 h2.1, fun x hx hn => by rw [h2.2 x (by have := h1.1; omega) hn, h1.2 x hx hn]⟩

theorem MemFrame.mono {m m' : Mem} {a n b k : Nat} (h : MemFrame m m' a n) (hs : ∀ x, a ≤ x ∧ x < a + n → b ≤ x ∧ x < b + k) :
    MemFrame m m' b k :=
  ⟨h.1, fun x hx hn => h.2 x hx (fun hc => hn (hs x hc))⟩

theorem memFrame_writeAt {m m' : Mem} {off : Nat} {d : List UInt8} (h : m.writeAt off d = some m') : MemFrame m m' off d.length :=
  ⟨by rw [size_writeAt h]; exact Nat.le_refl _, fun x _ hn => by rw [get?_writeAt h, if_neg hn]⟩

theorem memFrame_grow (m : Mem) (n a k : Nat) : MemFrame m (m.grow n) a k :=
  ⟨by rw [size_grow]; omega, fun x hx _ => by rw [get?_grow, if_pos hx]⟩

theorem memFrame_punch (m : Mem) (off len : Nat) : MemFrame m (m.punch off len) off len :=
  ⟨by rw [size_punch]; exact Nat.le_refl _, fun x _ hn => get?_punch m off len x hn⟩

/-- with an empty window (written `MemFrame m m' 0 0`) the file has only grown: every byte it had stays -/
theorem MemFrame.grown {m m' : Mem} {a : Nat} (h : MemFrame m m' a 0) (x : Nat) (hx : x < m.size) : m'.get? x = m.get? x :=
  h.2 x hx (fun hc => Nat.lt_irrefl _ (Nat.lt_of_le_of_lt hc.1 hc.2))

/-- contents lie inside the reservation and inside the file -/
def Bounds (s : Db) : Prop := ∀ idx sl, s.slot? idx = some sl → sl.md.len ≤ sl.md.reserved ∧ (0 < sl.md.len → sl.md.start + sl.md.len ≤ s.mem.size)

structure RInv (s : Db) : Prop where
  lay : LInv s
  bnd : Bounds s

/-- a byte of a live region's contents lies inside the file -/
theorem Bounds.lt_size {s : Db} (hb : Bounds s) {j : Nat} {sl : Slot} (hs : s.slot? j = some sl) {i : Nat} (hi : i < sl.md.len) :
    sl.md.start + i < s.mem.size := by
  have := (hb j sl hs).2 (by omega); omega

theorem hole_apart (s : Db) (h : LInv s) (e : E) (he : e ∈ s.holes) (j : Nat) (sl : Slot) (hs : s.slot? j = some sl) :
    e.1 + e.2 ≤ sl.md.start ∨ sl.md.start + sl.md.reserved ≤ e.1 :=
  ((linv_iff s).mp h).slot_apart (slot_vs hs) (Or.inr (Or.inl he))

theorem reserved_apart (s : Db) (h : LInv s) (e : E) (he : e ∈ s.reserved) (j : Nat) (sl : Slot) (hs : s.slot? j = some sl) :
    e.1 + e.2 ≤ sl.md.start ∨ sl.md.start + sl.md.reserved ≤ e.1 :=
  ((linv_iff s).mp h).slot_apart (slot_vs hs) (Or.inr (Or.inr he))

theorem slot_pos (s : Db) (h : LInv s) (j : Nat) (sl : Slot) (hs : s.slot? j = some sl) : 0 < sl.md.reserved :=
  h.pos _ (extOf_mem_claimed s j sl hs)

theorem slots_apart (s : Db) (h : LInv s) (i j : Nat) (a b : Slot) (hij : i ≠ j) (ha : s.slot? i = some a) (hb : s.slot? j = some b) :
    a.md.start + a.md.reserved ≤ b.md.start ∨ b.md.start + b.md.reserved ≤ a.md.start :=
  table_apart s.slots (slots_pos_one s h).1 (slots_pos_one s h).2 i j a b hij ((slot_iff s i a).mp ha) ((slot_iff s j b).mp hb)

theorem last_after (s : Db) (h : LInv s) (idx j : Nat) (sl slj : Slot) (hs : s.slot? idx = some sl) (hsj : s.slot? j = some slj)
    (hj : j ≠ idx) (hl : s.isLastAnything idx = true) : slj.md.start + slj.md.reserved ≤ sl.md.start := by
  have hap := slots_apart s h j idx slj sl hj hsj hs
  rcases hap with h1 | h1
  · exact h1
  · exfalso
    have hfree := isLast_free s h idx sl hs hl slj.md.start h1
    have := ind_le_cnt (claimedDb s) (extOf slj) slj.md.start (extOf_mem_claimed s j slj hsj)
    have hp := slot_pos s h j slj hsj
    rw [show extOf slj = (slj.md.start, slj.md.reserved) from rfl, ind_pos _ _ _ (by omega)] at this
    omega

/-- what `punch_holes` offers to punch — the tail of a reservation beyond `start + ceilPage len`, a free extent — lies off every
region's extent, or behind its pages if it is the region's own tail -/
theorem punchCand_apart (s : Db) (h : LInv s) (r : Nat × Nat) (hr : Db.PunchCand s r) (j : Nat) (slj : Slot) (hsj : s.slot? j = some slj) :
    r.1 + r.2 ≤ slj.md.start ∨ slj.md.start + slj.md.reserved ≤ r.1 ∨ slj.md.start + ceilPage slj.md.len ≤ r.1 := by
  rcases hr with ⟨i, sl, hs, _, rfl⟩ | hh
  · by_cases hji : j = i
    · subst hji; rw [hs] at hsj; cases hsj; exact Or.inr (Or.inr (Nat.le_refl _))
    · have hap := slots_apart s h j i slj sl hji hsj hs
      omega
  · have hap := hole_apart s h r hh j slj hsj
    omega

/-- what a live slot shows is what the reference holds at its index: name, length, bytes -/
theorem rel_at (s : Db) (r : Ref) (idx : Nat) (sl : Slot) (e : RegionId × List UInt8) (h : Rel s r) (hs : s.slot? idx = some sl)
    (he : r[idx]?.join = some e) :
    e.1 = sl.md.id ∧ e.2.length = sl.md.len ∧ ∀ i, i < sl.md.len → s.mem.get? (sl.md.start + i) = e.2[i]? := by
  have h2 := h.2 idx
  unfold viewAt at h2
  rw [hs, he] at h2
  simp only [Option.map_some, liftE, Option.some.injEq, Prod.mk.injEq] at h2
  have hl : e.2.length = sl.md.len := by
    have := congrArg List.length h2.2; simpa [read_length] using this.symm
  refine ⟨h2.1.symm, hl, fun i hi => ?_⟩
  have := congrArg (fun l => l[i]?) h2.2
  simp only [read_getElem?, hi, if_true, List.getElem?_map] at this
  have hi' : i < e.2.length := by omega
  rw [List.getElem?_eq_getElem hi'] at this ⊢
  simpa using this

theorem rel_get (s : Db) (r : Ref) (idx : Nat) (sl : Slot) (h : Rel s r) (hs : s.slot? idx = some sl) :
    ∃ e, r[idx]?.join = some e ∧ e.1 = sl.md.id ∧ e.2.length = sl.md.len ∧ ∀ i, i < sl.md.len → s.mem.get? (sl.md.start + i) = e.2[i]? := by
  cases he : r[idx]?.join with
  | none =>
    have h2 := h.2 idx
    unfold viewAt at h2
    rw [hs, he] at h2; cases h2
  | some e => exact ⟨e, rfl, rel_at s r idx sl e h hs he⟩

/-- off the slot indices in `T` the step is quiet: no metadata changes, no byte of a live region changes; the file does not
shrink -/
def QuietOff (T : Nat → Prop) (s s' : Db) : Prop :=
  s.mem.size ≤ s'.mem.size ∧ ∀ j, ¬T j → (s'.slot? j).map (·.md) = (s.slot? j).map (·.md) ∧
    ∀ sl, s.slot? j = some sl → ∀ i, i < sl.md.len → s'.mem.get? (sl.md.start + i) = s.mem.get? (sl.md.start + i)

theorem viewAt_of_md (s s' : Db) (j : Nat) (hm : (s'.slot? j).map (·.md) = (s.slot? j).map (·.md))
    (hk : ∀ sl, s.slot? j = some sl → ∀ i, i < sl.md.len → s'.mem.get? (sl.md.start + i) = s.mem.get? (sl.md.start + i)) :
    viewAt s' j = viewAt s j := by
  unfold viewAt
  cases hs : s.slot? j with
  | none =>
    rw [hs, Option.map_none, Option.map_eq_none_iff] at hm
    rw [hm]; rfl
  | some sl =>
    rw [hs, Option.map_some, Option.map_eq_some_iff] at hm
    obtain ⟨sl', hs', hmd⟩ := hm
    rw [hs', Option.map_some, Option.map_some, hmd, read_congr _ _ _ _ (hk sl hs)]

theorem viewAt_md (s s' : Db) (j : Nat) (h1 : (s'.slot? j).map (·.md) = (s.slot? j).map (·.md)) (h2 : s'.mem = s.mem) :
    viewAt s' j = viewAt s j :=
  viewAt_of_md s s' j h1 (fun _ _ _ _ => by rw [h2])

theorem QuietOff.rinv {T : Nat → Prop} {s s' : Db} (hq : QuietOff T s s') (hinv : RInv s) (hlay : LInv s')
    (hb : ∀ j X, T j → s'.slot? j = some X → X.md.len ≤ X.md.reserved ∧ (0 < X.md.len → X.md.start + X.md.len ≤ s'.mem.size)) :
    RInv s' := by
  refine ⟨hlay, fun j slj hj => ?_⟩
  by_cases hji : T j
  · exact hb j slj hji hj
  · have hm := (hq.2 j hji).1
    rw [hj, Option.map_some] at hm
    obtain ⟨sl, hs, hmd⟩ := Option.map_eq_some_iff.mp hm.symm
    have hb0 := hinv.bnd j sl hs
    have := hq.1
    rw [← hmd]
    exact ⟨hb0.1, fun h0 => by have := hb0.2 h0; omega⟩

theorem QuietOff.rel {T : Nat → Prop} {s s' : Db} (hq : QuietOff T s s') (r r' : Ref) (hrel : Rel s r) (hinv : RInv s) (hlay : LInv s')
    (hlen : r'.length = s'.slots.length) (hoff : ∀ j, ¬T j → r'[j]? = r[j]?)
    (hv : ∀ j, T j → viewAt s' j = (r'[j]?.join).map liftE)
    (hb : ∀ j X, T j → s'.slot? j = some X → X.md.len ≤ X.md.reserved ∧ (0 < X.md.len → X.md.start + X.md.len ≤ s'.mem.size)) :
    Rel s' r' ∧ RInv s' := by
  refine ⟨⟨hlen, fun j => ?_⟩, hq.rinv hinv hlay hb⟩
  by_cases hji : T j
  · exact hv j hji
  · rw [hoff j hji, ← hrel.2 j]
    exact viewAt_of_md s s' j (hq.2 j hji).1 (hq.2 j hji).2

theorem quietOff_of_set {s s' : Db} {idx : Nat} {new : Option Slot} (hslots : s'.slots = s.slots.set idx new) (hbnd : Bounds s)
    (a n : Nat) (hf : MemFrame s.mem s'.mem a n)
    (hap : ∀ j slj, j ≠ idx → s'.slot? j = some slj → slj.md.start + slj.md.reserved ≤ a ∨ a + n ≤ slj.md.start) :
    QuietOff (· = idx) s s' := by
  refine ⟨hf.1, fun j hj => ?_⟩
  have hsj : s'.slot? j = s.slot? j := Db.slot?_set_ne hslots hj
  refine ⟨by rw [hsj], fun sl hs i hi => ?_⟩
  have hb := hbnd j sl hs
  exact hf.2 _ (by omega) (by have := hap j sl hj (by rw [hsj, hs]); omega)

theorem quietOff_of_set_mem {s s' : Db} {idx : Nat} {new : Option Slot} (hslots : s'.slots = s.slots.set idx new) (hbnd : Bounds s)
    (hmem : s'.mem = s.mem) : QuietOff (· = idx) s s' :=
  quietOff_of_set hslots hbnd 0 0 (by rw [hmem]; exact MemFrame.refl _ _ _) (fun _ _ _ _ => Or.inr (Nat.zero_le _))

theorem QuietOff.rel_set {idx : Nat} {s s' : Db} (hq : QuietOff (· = idx) s s') (r : Ref) (o : Option (RegionId × List UInt8))
    (hrel : Rel s r) (hinv : RInv s) (hlay : LInv s') (hlen : s'.slots.length = s.slots.length) (hidx : idx < s.slots.length)
    (hv : viewAt s' idx = o.map liftE)
    (hb : ∀ X, s'.slot? idx = some X → X.md.len ≤ X.md.reserved ∧ (0 < X.md.len → X.md.start + X.md.len ≤ s'.mem.size)) :
    Rel s' (r.set idx o) ∧ RInv s' :=
  hq.rel r _ hrel hinv hlay (by rw [List.length_set, hrel.1, hlen]) (fun j hj => List.getElem?_set_ne (Ne.symm hj))
    (fun j hj => by subst hj; rw [List.getElem?_set_self (by rw [hrel.1]; exact hidx)]; exact hv) (fun j X hj => by subst hj; exact hb X)

theorem memFrame_setMinLen (s : Db) (n : Nat) : MemFrame s.mem (s.setMinLen n).mem 0 0 := by
  rcases Db.setMinLen_eq s n with ⟨_, e⟩ | ⟨k, _, _, e⟩
  · rw [e]; exact MemFrame.refl _ _ _
  · rw [e]; exact memFrame_grow _ _ _ _

theorem createPre_same (s : Db) : Same s (Db.createPre s) ∧ (Db.createPre s).slots = s.slots ∧ MemFrame s.mem (Db.createPre s).mem 0 0 :=
  Db.createPre_cases (P := fun t => Same s t ∧ t.slots = s.slots ∧ MemFrame s.mem t.mem 0 0) s
    (fun _ => ⟨Same.refl s, rfl, MemFrame.refl _ _ _⟩)
    (fun _ => ⟨same_setMinLen _ _, (Db.setMinLen_rest s _).1, memFrame_setMinLen s _⟩)

theorem placeRelocation_frame {s p : Db} {nr ns : Nat} (hp : s.placeRelocation nr = .ok (p, ns)) :
    p.slots = s.slots ∧ MemFrame s.mem p.mem 0 0 := by
  obtain ⟨q, n, hq, rfl⟩ := Db.placeRelocation_rest hp
  exact ⟨(Db.setMinLen_rest q n).1.trans hq.2.2.1, hq.2.1 ▸ memFrame_setMinLen q n⟩

/-- the answers of the API: success, or one of its documented refusals (no panic, no internal error) -/
def Normal : Out → Prop
  | .ok => True
  | .okN _ => True
  | .err k => k = .writeOutOfBounds ∨ k = .truncateInvalid ∨ k = .regionAlreadyExists ∨ k = .regionNotFound ∨
      k = .regionStillReferenced ∨ k = .noSuchRegion ∨ k = .regionMetadataUnwritten
  | .panic _ => False

theorem not_internal_of_normal {k : ErrKind} (h : Normal (.err k)) : ¬Db.Internal k := by
  intro hi
  rcases hi with rfl | rfl | rfl | rfl | rfl <;> simp [Normal] at h

end AnyDB.C01r
