import AnyDB.Lemmas.VecOps
import AnyDB.Lemmas.VecMap

/-!
The operations of a raw stored vector (`variants/raw/inner/read_write`) in closed form: what an operation returns as
`{ s with … }`, so that the fields it leaves alone are read off by `rfl`; what a read returns (`getAny_fst`, `getAny_snd`) in
terms of the value a stored slot holds (`slotVal`), and the two collecting reads as a `map` and an `any` over the indices
(`items_raw`, `collectStoredRaw_eq`).  The raw `write()` stage by stage, and as a whole (`writeRaw_eq`, `written`)
for states whose stored length lies inside the region and whose overlay keys lie below the stored length, which is every
state but those after a rolled-back truncation; for those, what the stages keep (`wrData_stored`, `wrOverlay_grows`,
`wrHoles_fields`) is what `C20_writeRaw_le` needs.
-/
namespace AnyDB.C04m
open VecM

/-- the value slot `i` holds, deleted or not: overlay entry, else the region -/
def slotVal (s : V) (i : Nat) : Nat :=
  match mapGet s.updated i with
  | some v => v
  | none => s.disk.getD i garbage

end AnyDB.C04m

namespace AnyDB.VecM.V
open C03w C04m

theorem diskRead_in (s : V) (i : Nat) (h : i < s.disk.length) : (s.diskRead i).2 = false := by
  unfold diskRead
  rw [List.getElem?_eq_getElem h]

theorem diskRead_val (s : V) (i : Nat) (h : i < s.disk.length) : (s.diskRead i).1 = s.disk[i] := by
  unfold diskRead
  rw [List.getElem?_eq_getElem h]

theorem getAny_fst (s : V) (i : Nat) :
    (s.getAny i).1 = if i ∈ s.holes then none else if s.storedLen ≤ i then s.pushed[i - s.storedLen]? else some (slotVal s i) := by
  unfold getAny slotVal diskRead
  by_cases h1 : i ∈ s.holes
  · rw [if_pos h1, if_pos h1]
  · rw [if_neg h1, if_neg h1]
    by_cases h2 : s.storedLen ≤ i
    · rw [if_pos h2, if_pos h2]
    · rw [if_neg h2, if_neg h2]
      cases mapGet s.updated i with
      | some v => rfl
      | none =>
        rw [List.getD_eq_getElem?_getD]
        cases s.disk[i]? <;> rfl

theorem getAny_snd (s : V) (i : Nat) :
    (s.getAny i).2 = true ↔ i ∉ s.holes ∧ i < s.storedLen ∧ mapGet s.updated i = none ∧ s.disk.length ≤ i := by
  unfold getAny diskRead
  by_cases h1 : i ∈ s.holes
  · rw [if_pos h1]
    exact ⟨(fun h => nomatch h), fun h => absurd h1 h.1⟩
  · rw [if_neg h1]
    by_cases h2 : i ≥ s.storedLen
    · rw [if_pos h2]
      exact ⟨(fun h => nomatch h), fun h => absurd h.2.1 (Nat.not_lt.mpr h2)⟩
    · rw [if_neg h2]
      cases hm : mapGet s.updated i with
      | some v => exact ⟨(fun h => nomatch h), fun h => nomatch h.2.2.1⟩
      | none =>
        cases hd : s.disk[i]? with
        | some v => exact ⟨(fun h => nomatch h), fun h => absurd (List.getElem?_eq_some_iff.mp hd).1 (Nat.not_lt.mpr h.2.2.2)⟩
        | none => exact ⟨fun _ => ⟨h1, Nat.lt_of_not_le h2, rfl, List.getElem?_eq_none_iff.mp hd⟩, fun _ => rfl⟩

theorem slotVal_congr (t s : V) (i : Nat) (hu : mapGet t.updated i = mapGet s.updated i) (hd : t.disk = s.disk) :
    slotVal t i = slotVal s i := by
  unfold slotVal
  rw [hu, hd]

/-- what index `i` reads depends on the state through four things: whether `i` is deleted, on which side of the stored
length it lies, the buffer entry there, the value of the slot -/
theorem getAny_fst_congr (t s : V) (i : Nat) (hh : i ∈ t.holes ↔ i ∈ s.holes) (hl : i < t.storedLen ↔ i < s.storedLen)
    (hb : s.storedLen ≤ i → t.pushed[i - t.storedLen]? = s.pushed[i - s.storedLen]?)
    (hv : i < s.storedLen → slotVal t i = slotVal s i) : (t.getAny i).1 = (s.getAny i).1 := by
  rw [getAny_fst, getAny_fst]
  simp only [hh]
  by_cases hs : i < s.storedLen
  · rw [if_neg (Nat.not_le.mpr hs), if_neg (Nat.not_le.mpr (hl.mpr hs)), hv hs]
  · rw [if_pos (Nat.le_of_not_lt hs), if_pos (Nat.le_of_not_lt (fun h => hs (hl.mp h))), hb (Nat.le_of_not_lt hs)]

theorem slotVal_clean (s : V) (hu : s.updated = []) (i : Nat) (hi : i < s.disk.length) : slotVal s i = s.disk[i] := by
  unfold slotVal
  rw [hu]
  exact (List.getElem_eq_getD garbage).symm

theorem items_raw (s : V) (hk : s.kind = .raw) :
    s.items = ((List.range s.len).map (fun i => (s.getAny i).1), (List.range s.len).any (fun i => (s.getAny i).2)) := by
  unfold items
  simp only [hk]
  rw [foldl_collect _ _ (fun i => (s.getAny i).1) (fun i => (s.getAny i).2) (fun _ _ => rfl), List.nil_append, Bool.false_or]

theorem collectStoredRaw_eq (s : V) (a b : Nat) :
    s.collectStoredRaw a b =
      ((List.range (b - a)).map (fun k => (mapGet s.prevUpdated (a + k)).getD (s.diskRead (a + k)).1),
       (List.range (b - a)).any (fun k => (mapGet s.prevUpdated (a + k)).isNone && (s.diskRead (a + k)).2)) := by
  unfold collectStoredRaw
  rw [foldl_collect _ _ (fun k => (mapGet s.prevUpdated (a + k)).getD (s.diskRead (a + k)).1)
    (fun k => (mapGet s.prevUpdated (a + k)).isNone && (s.diskRead (a + k)).2)]
  · rfl
  · exact fun acc x => collect_step ..

theorem collectStoredRaw_length (s : V) (a b : Nat) : (s.collectStoredRaw a b).1.length = b - a := by
  rw [collectStoredRaw_eq, List.length_map, List.length_range]

theorem updateAt_stored (s : V) (i v : Nat) (h : i < s.storedLen) :
    s.updateAt i v = ({ s with holes := s.holes.filter (· != i), updated := mapInsert s.updated i v }, .ok) := by
  unfold updateAt
  rw [if_neg (Nat.not_le.mpr h)]

theorem updateAt_pushed (s : V) (i v : Nat) (h1 : s.storedLen ≤ i) (h2 : i < s.len) :
    s.updateAt i v = ({ s with holes := s.holes.filter (· != i), pushed := s.pushed.set (i - s.storedLen) v }, .ok) := by
  unfold updateAt
  rw [if_pos h1, if_pos (by unfold V.len at h2; omega)]

theorem updateAt_refused (s : V) (i v : Nat) (hi : ¬ i < s.len) : s.updateAt i v = (s, .err .indexTooHigh) := by
  unfold updateAt V.len at *
  rw [if_pos (by omega), if_neg (by omega)]

theorem updateAt_eq (s : V) (i v : Nat) (hi : i < s.len) :
    s.updateAt i v = ({ s with holes := s.holes.filter (· != i), pushed := (if s.storedLen ≤ i then s.pushed.set (i - s.storedLen) v else s.pushed), updated := (if s.storedLen ≤ i then s.updated else mapInsert s.updated i v) }, .ok) := by
  by_cases h : s.storedLen ≤ i
  · rw [updateAt_pushed s i v h hi, if_pos h, if_pos h]
  · rw [updateAt_stored s i v (Nat.lt_of_not_le h), if_neg h, if_neg h]

/-- `update_at` as a state transformer: nothing (index at or beyond the length), or slot `i` is no longer deleted and its new
value goes into the buffer or into the overlay -/
theorem updateAt_state {P : V → Prop} (s : V) (i v : Nat) (h0 : P s)
    (hb : s.storedLen ≤ i → i < s.len → P { s with holes := s.holes.filter (· != i), pushed := s.pushed.set (i - s.storedLen) v })
    (ho : i < s.storedLen → P { s with holes := s.holes.filter (· != i), updated := mapInsert s.updated i v }) :
    P (s.updateAt i v).1 := by
  by_cases hi : i < s.len
  · by_cases hs : s.storedLen ≤ i
    · rw [updateAt_pushed s i v hs hi]
      exact hb hs hi
    · rw [updateAt_stored s i v (Nat.lt_of_not_le hs)]
      exact ho (Nat.lt_of_not_le hs)
  · rw [updateAt_refused s i v hi]
    exact h0

theorem updateAt_len (s : V) (i v : Nat) : (s.updateAt i v).1.len = s.len :=
  updateAt_state (P := fun t => t.len = s.len) s i v rfl (fun _ _ => congrArg (s.storedLen + ·) List.length_set) (fun _ => rfl)

theorem deleteAt_eq (s : V) (i : Nat) (hi : i < s.len) :
    s.deleteAt i = { s with updated := mapErase s.updated i, holes := setInsert s.holes i } :=
  if_pos hi

theorem deleteAt_refused (s : V) (i : Nat) (hi : ¬ i < s.len) : s.deleteAt i = s :=
  if_neg hi

/-- `delete_at` as a state transformer: nothing, or slot `i` deleted and its overlay entry dropped -/
theorem deleteAt_state {P : V → Prop} (s : V) (i : Nat) (h0 : P s)
    (h1 : i < s.len → P { s with updated := mapErase s.updated i, holes := setInsert s.holes i }) : P (s.deleteAt i) := by
  by_cases hi : i < s.len
  · rw [deleteAt_eq s i hi]
    exact h1 hi
  · rw [deleteAt_refused s i hi]
    exact h0

theorem deleteAt_len (s : V) (i : Nat) : (s.deleteAt i).len = s.len :=
  deleteAt_state (P := fun t => t.len = s.len) s i rfl (fun _ => rfl)

theorem edited_updateAt (s : V) (i v : Nat) : Edited s (s.updateAt i v).1 :=
  updateAt_state s i v ⟨rfl, Nat.le_refl _⟩ (fun _ _ => ⟨rfl, Nat.le_refl _⟩) (fun _ => ⟨rfl, Nat.le_refl _⟩)

theorem edited_deleteAt (s : V) (i : Nat) : Edited s (s.deleteAt i) :=
  deleteAt_state s i ⟨rfl, Nat.le_refl _⟩ (fun _ => ⟨rfl, Nat.le_refl _⟩)

theorem takeAt_eq (s : V) (i : Nat) :
    s.takeAt i = ({ s with oob := s.oob || (s.getAny i).2,
                           updated := if (s.getAny i).1.isSome then mapErase s.updated i else s.updated,
                           holes := if (s.getAny i).1.isSome then setInsert s.holes i else s.holes }, .okV (s.getAny i).1) := by
  unfold takeAt uncheckedDeleteAt
  simp only []
  cases (s.getAny i).1 <;> rfl

theorem fillFirstHoleOrPush_nil (s : V) (v : Nat) (h : s.holes = []) : s.fillFirstHoleOrPush v = (s.push v, .okI s.len) := by
  unfold fillFirstHoleOrPush
  rw [h]
  show (s.push v, Out.okI (s.storedLen + (s.pushed ++ [v]).length - 1)) = _
  rw [List.length_append]
  rfl

theorem fillFirstHoleOrPush_cons (s : V) (v hd : Nat) (rest : List Nat) (h : s.holes = hd :: rest) (hi : hd < s.len) :
    s.fillFirstHoleOrPush v = ((({ s with holes := rest } : V).updateAt hd v).1, .okI hd) := by
  unfold fillFirstHoleOrPush
  rw [h]
  simp only []
  rw [updateAt_eq ({ s with holes := rest } : V) hd v hi]

theorem _root_.AnyDB.C03w.wrExtend_id (t : V) (hle : t.storedLen ≤ t.disk.length) : t.wrExtend = t := by
  unfold wrExtend
  rw [if_neg (Nat.not_lt.mpr hle)]

theorem wrExtend_eq (s : V) : s.wrExtend = { s with disk := s.disk ++ List.replicate (s.storedLen - s.disk.length) 0 } := by
  rcases Nat.lt_or_ge s.disk.length s.storedLen with h | h
  · unfold wrExtend
    rw [if_pos h]
  · rw [wrExtend_id s h, Nat.sub_eq_zero_of_le h, List.replicate_zero, List.append_nil]

theorem wrData_ok (t : V) (hle : t.storedLen ≤ t.disk.length) :
    t.wrData (decide (t.storedLen < t.disk.length)) =
      .ok { t with pushed := [], disk := t.disk.take t.storedLen ++ t.pushed, storedLen := t.storedLen + t.pushed.length } := by
  unfold wrData
  by_cases hp : (!t.pushed.isEmpty) = true
  · rw [if_pos hp, if_neg (Nat.not_lt.mpr hle)]
  · rw [if_neg hp]
    have hp : t.pushed = [] := by simpa using hp
    by_cases ht : t.storedLen < t.disk.length
    · rw [decide_eq_true ht, if_pos rfl, hp, List.append_nil]
      rfl
    · rw [decide_eq_false ht, if_neg Bool.false_ne_true]
      have hd : t.disk.take t.storedLen = t.disk := List.take_of_length_le (Nat.le_of_not_lt ht)
      rw [hd]
      cases t
      subst hp
      rw [List.append_nil]
      rfl

theorem wrData_stored (s r : V) (hr : s.wrExtend.wrData (decide (s.storedLen < s.disk.length)) = .ok r) :
    r.storedLen = r.disk.length := by
  rw [wrExtend_eq] at hr
  generalize ht : ({ s with disk := s.disk ++ List.replicate (s.storedLen - s.disk.length) 0 } : V) = t at hr
  have hd : t.disk.length = s.disk.length + (s.storedLen - s.disk.length) := by
    rw [← ht]
    exact (List.length_append ..).trans (congrArg _ (List.length_replicate ..))
  have hx : t.storedLen = s.storedLen := by rw [← ht]
  have hle : t.storedLen ≤ t.disk.length := by omega
  -- extending the region does not change whether it has to be cut
  have hflag : decide (s.storedLen < s.disk.length) = decide (t.storedLen < t.disk.length) :=
    decide_eq_decide.mpr (by omega)
  rw [hflag, wrData_ok _ hle] at hr
  cases hr
  show t.storedLen + t.pushed.length = (t.disk.take t.storedLen ++ t.pushed).length
  rw [List.length_append, List.length_take_of_le hle]

/-- the region after the in-place overlay writes -/
def overlaid (upd : List (Nat × Nat)) (d : List Nat) : List Nat := upd.foldl (fun d kv => d.set kv.1 kv.2) d

theorem overlaid_length (upd : List (Nat × Nat)) (d : List Nat) : (overlaid upd d).length = d.length := by
  unfold overlaid
  induction upd generalizing d with
  | nil => rfl
  | cons kv t ih => rw [List.foldl_cons, ih, List.length_set]

theorem overlaid_get (upd : List (Nat × Nat)) (d : List Nat) (hd : KeysDistinct upd) (hk : ∀ kv ∈ upd, kv.1 < d.length) (i : Nat) :
    (overlaid upd d)[i]? = match mapGet upd i with | some v => some v | none => d[i]? := by
  unfold overlaid
  induction upd generalizing d with
  | nil => rfl
  | cons kv t ih =>
    obtain ⟨k, v⟩ := kv
    obtain ⟨h1, h2⟩ := List.pairwise_cons.mp hd
    rw [List.foldl_cons, ih _ h2 (fun x hx => by rw [List.length_set]; exact hk x (List.mem_cons_of_mem _ hx)), mapGet_cons]
    by_cases hki : k = i
    · subst hki
      rw [mapGet_none_of_not_mem t k (fun a ha => (h1 a ha).symm), if_pos rfl]
      exact List.getElem?_set_self (hk (k, v) (List.mem_cons_self ..))
    · rw [if_neg hki]
      cases mapGet t i with
      | some w => rfl
      | none => exact List.getElem?_set_ne hki

theorem wrOverlaySet_eq (upd : List (Nat × Nat)) (s : V) (hk : ∀ kv ∈ upd, kv.1 < s.disk.length) :
    wrOverlaySet upd s = .ok { s with disk := overlaid upd s.disk } := by
  unfold wrOverlaySet overlaid
  induction upd generalizing s with
  | nil => rfl
  | cons kv t ih =>
    rw [List.foldl_cons, List.foldl_cons]
    simp only [hk kv (List.mem_cons_self ..), if_true]
    exact ih _ (fun x hx => by rw [List.length_set]; exact hk x (List.mem_cons_of_mem _ hx))

/-- the overlay stage of a write that did not have to extend the region (`expanded = false`) -/
theorem wrOverlay_eq (t : V) (hk : ∀ kv ∈ t.updated, kv.1 < t.disk.length) :
    t.wrOverlay false = .ok { t with updated := [], disk := overlaid t.updated t.disk } := by
  unfold wrOverlay
  by_cases h : (!t.updated.isEmpty) = true
  · rw [if_pos h]
    exact wrOverlaySet_eq t.updated { t with updated := [] } hk
  · rw [if_neg h]
    have hu : t.updated = [] := by simpa using h
    cases t
    subst hu
    rfl

theorem diskWriteAt_length (d d' : List Nat) (i v : Nat) (h : diskWriteAt d i v = some d') : d.length ≤ d'.length := by
  unfold diskWriteAt at h
  split at h
  · cases h
  · split at h <;> cases h
    · rw [List.length_append]; exact Nat.le_add_right ..
    · exact Nat.le_of_eq List.length_set.symm

theorem wrOverlay_grows (s r : V) (e : Bool) (hr : s.wrOverlay e = .ok r) :
    s.disk.length ≤ r.disk.length ∧ r.storedLen = s.storedLen := by
  unfold wrOverlay at hr
  by_cases hu : (!s.updated.isEmpty) = true
  · rw [if_pos hu] at hr
    cases e with
    | true =>
      refine foldl_ok_inv _ (fun _ _ => rfl) (fun r => s.disk.length ≤ r.disk.length ∧ r.storedLen = s.storedLen)
        (fun b kv c hb hc => ?_) _ _ _ ⟨Nat.le_refl _, rfl⟩ hr
      simp only [] at hc
      cases hd : diskWriteAt b.disk kv.1 kv.2 with
      | none =>
        rw [hd] at hc
        cases hc
      | some d =>
        rw [hd] at hc
        cases hc
        exact ⟨Nat.le_trans hb.1 (diskWriteAt_length _ _ _ _ hd), hb.2⟩
    | false =>
      refine foldl_ok_inv _ (fun _ _ => rfl) (fun r => s.disk.length ≤ r.disk.length ∧ r.storedLen = s.storedLen)
        (fun b kv c hb hc => ?_) _ _ _ ⟨Nat.le_refl _, rfl⟩ hr
      simp only [] at hc
      split at hc <;> cases hc
      exact ⟨by rw [List.length_set]; exact hb.1, hb.2⟩
  · rw [if_neg hu] at hr
    cases hr
    exact ⟨Nat.le_refl _, rfl⟩

/-- the last stage as `writeRaw` calls it: `hadHoles` is the state's own flag -/
theorem wrHoles_eq (s : V) (a : Bool) :
    s.wrHoles a s.hasStoredHoles =
      ({ s with hasStoredHoles := a, holesDisk := if a then s.holes else if s.hasStoredHoles then [] else s.holesDisk }, .okB true) := by
  cases a
  · cases hb : s.hasStoredHoles
    · cases s
      subst hb
      rfl
    · rfl
  · rfl

theorem wrHoles_fields (s : V) (a b : Bool) : (s.wrHoles a b).1.storedLen = s.storedLen ∧ (s.wrHoles a b).1.disk = s.disk := by
  unfold wrHoles; split
  · exact ⟨rfl, rfl⟩
  · split <;> exact ⟨rfl, rfl⟩

/-- below the stored length the region a write leaves (`written`, `Written.disk`) holds the old region -/
theorem stored_get (d p : List Nat) (n i : Nat) (hn : n ≤ d.length) (hi : i < n) : (d.take n ++ p)[i]? = d[i]? := by
  rw [List.getElem?_append_left (by rw [List.length_take_of_le hn]; exact hi), List.getElem?_take_of_lt hi]

/-- the state a raw `write()` leaves when the stored length lies inside the region and the overlay addresses stored slots
(`writeRaw_eq`) -/
def written (s : V) : V :=
  { s with
    diskStamp := s.writeHeaderIfNeeded.diskStamp, hdrModified := s.writeHeaderIfNeeded.hdrModified,
    pushed := [], updated := [], storedLen := s.storedLen + s.pushed.length,
    disk := overlaid s.updated (s.disk.take s.storedLen ++ s.pushed),
    hasStoredHoles := !s.holes.isEmpty,
    holesDisk := if s.holes.isEmpty then (if s.hasStoredHoles then [] else s.holesDisk) else s.holes }

/-- the region a write leaves: the overlay on top of the stored part followed by the buffer -/
theorem written_get (s : V) (hd : KeysDistinct s.updated) (hk : ∀ kv ∈ s.updated, kv.1 < s.storedLen)
    (hle : s.storedLen ≤ s.disk.length) (j : Nat) :
    (written s).disk[j]? = match mapGet s.updated j with | some v => some v | none => (s.disk.take s.storedLen ++ s.pushed)[j]? :=
  overlaid_get _ _ hd (fun kv h => by
    have := hk kv h
    rw [List.length_append, List.length_take_of_le hle]
    omega) j

theorem writeRaw_eq (s : V) (hle : s.storedLen ≤ s.disk.length) (hk : ∀ kv ∈ s.updated, kv.1 < s.storedLen) :
    ∃ b, s.writeRaw = (written s, .okB b) := by
  unfold writeRaw written
  -- the header write touches none of the fields the stages look at
  obtain ⟨d, m, hd⟩ := writeHeaderIfNeeded_frame s
  rw [hd]
  generalize ht : ({ s with diskStamp := d, hdrModified := m } : V) = t
  have hle' : t.storedLen ≤ t.disk.length := by rw [← ht]; exact hle
  have hk' : ∀ kv ∈ t.updated, kv.1 < t.storedLen := by rw [← ht]; exact hk
  -- `split` on the guard is dearer to check
  by_cases hq : (!decide (t.storedLen < t.disk.length) && !decide (t.storedLen > t.disk.length) && !(!t.pushed.isEmpty)
      && !(!t.updated.isEmpty) && !(!t.holes.isEmpty) && !t.hasStoredHoles) = true
  · -- nothing buffered, overlaid, deleted or cut: `written s` is `s` with the header written
    refine ⟨false, (if_pos hq).trans ?_⟩
    simp only [Bool.and_eq_true, Bool.not_eq_eq_eq_not, Bool.not_true, decide_eq_false_iff_not, Bool.not_not,
      List.isEmpty_iff] at hq
    obtain ⟨⟨⟨⟨⟨q1, _⟩, q3⟩, q4⟩, q5⟩, q6⟩ := hq
    subst ht
    cases s
    subst q3 q4 q5 q6
    rw [List.take_of_length_le (Nat.le_of_not_lt q1), List.append_nil]
    rfl
  · refine ⟨true, (if_neg hq).trans ?_⟩
    rw [wrExtend_id t hle', wrData_ok t hle']
    simp only []
    rw [decide_eq_false (Nat.not_lt.mpr hle'), wrOverlay_eq _ (fun kv h => by
      have := hk' kv h
      simp only [List.length_append, List.length_take]
      omega)]
    simp only []
    rw [wrHoles_eq]
    subst ht
    cases hh : s.holes.isEmpty <;> rfl

theorem writeRaw_fst (s : V) (hle : s.storedLen ≤ s.disk.length) (hk : ∀ kv ∈ s.updated, kv.1 < s.storedLen) :
    s.writeRaw.1 = written s := by
  obtain ⟨_, hw⟩ := writeRaw_eq s hle hk
  rw [hw]

end AnyDB.VecM.V
