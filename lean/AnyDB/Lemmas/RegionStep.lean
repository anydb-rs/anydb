import AnyDB.Lemmas.RegionMeta
import AnyDB.Lemmas.RegionWrite
/-!
One request (`rel_step`): from a state that shows the reference `r` and satisfies `RInv`, a request whose answer is a success or
an API refusal (`Normal`) leads to a state that shows `refStep r op` and satisfies `RInv`.  Both sides find a name in the same
slot (`rel_findId`), which makes a request addressed by name a case principle (`rel_byName`).
-/
namespace AnyDB.C01r
open Db C02r

theorem findIdx?_congr {α β : Type} (l1 : List α) (l2 : List β) (p : α → Bool) (q : β → Bool) (hl : l1.length = l2.length)
    (h : ∀ j (h1 : j < l1.length) (h2 : j < l2.length), p l1[j] = q l2[j]) : l1.findIdx? p = l2.findIdx? q := by
  induction l1 generalizing l2 with
  | nil => cases l2 with
    | nil => rfl
    | cons b t => simp at hl
  | cons a t ih =>
    cases l2 with
    | nil => simp at hl
    | cons b t2 =>
      simp only [List.findIdx?_cons]
      have h0 := h 0 (by simp) (by simp)
      simp only [List.getElem_cons_zero] at h0
      rw [h0]
      split
      · rfl
      · rw [ih t2 (by simpa using hl) (fun j h1 h2 => by
          have := h (j + 1) (by simp; omega) (by simp; omega)
          simpa using this)]

theorem rel_entry (s : Db) (r : Ref) (hrel : Rel s r) (j : Nat) (h1 : j < s.slots.length) (h2 : j < r.length) :
    (s.slots[j] = none ↔ r[j] = none) ∧ ∀ sl e, s.slots[j] = some sl → r[j] = some e → sl.md.id = e.1 := by
  have hv := hrel.2 j
  unfold viewAt at hv
  rw [slot?_of_lt h1, List.getElem?_eq_getElem h2] at hv
  cases ha : s.slots[j] <;> cases hb : r[j] <;> simp [ha, hb, liftE] at hv ⊢
  exact hv.1

theorem rel_findId (s : Db) (r : Ref) (hrel : Rel s r) (id : RegionId) : s.findId id = refFind r id := by
  unfold Db.findId refFind
  apply findIdx?_congr _ _ _ _ hrel.1.symm
  intro j h1 h2
  obtain ⟨e1, e2⟩ := rel_entry s r hrel j h1 h2
  cases ha : s.slots[j] with
  | none => rw [e1.mp ha]
  | some sl =>
    cases hb : r[j] with
    | none => rw [e1.mpr hb] at ha; cases ha
    | some e => simp only; rw [e2 sl e ha hb]

theorem rel_findFree (s : Db) (r : Ref) (hrel : Rel s r) : s.slots.findIdx? (·.isNone) = r.findIdx? (·.isNone) := by
  apply findIdx?_congr _ _ _ _ hrel.1.symm
  intro j h1 h2
  obtain ⟨e1, _⟩ := rel_entry s r hrel j h1 h2
  cases ha : s.slots[j] with
  | none => rw [e1.mp ha]; rfl
  | some sl =>
    cases hb : r[j] with
    | none => rw [e1.mpr hb] at ha; cases ha
    | some e => rfl

theorem rel_added (s s' : Db) (r : Ref) (id : RegionId) (sl : Slot) (hrel : Rel s r) (hinv : RInv s) (hlay : LInv s')
    (hid : sl.md.id = id) (hlen : sl.md.len = 0)
    (hslots : s'.slots = match s.slots.findIdx? (·.isNone) with | some i => s.slots.set i (some sl) | none => s.slots ++ [some sl])
    (hm : MemFrame s.mem s'.mem 0 0) :
    Rel s' (match r.findIdx? (·.isNone) with | some i => r.set i (some (id, [])) | none => r ++ [some (id, [])]) ∧ RInv s' := by
  have hnew : ∀ j, s'.slot? j = some sl → viewAt s' j = some (liftE (id, [])) ∧
      ∀ X, s'.slot? j = some X → X.md.len ≤ X.md.reserved ∧ (0 < X.md.len → X.md.start + X.md.len ≤ s'.mem.size) := by
    intro j hj
    refine ⟨by unfold viewAt; rw [hj]; simp only [Option.map_some, liftE, hid, hlen]; rfl, fun X hX => ?_⟩
    rw [hj] at hX; cases hX; omega
  -- memory only grows: the step is quiet off the slot that is filled
  have hq : ∀ idx, (∀ j, j ≠ idx → s'.slot? j = s.slot? j) → QuietOff (· = idx) s s' := fun idx hoff =>
    ⟨hm.1, fun j hj => ⟨by rw [hoff j hj], fun slj hs i hi => hm.grown _ (hinv.bnd.lt_size hs hi)⟩⟩
  rw [← rel_findFree s r hrel]
  cases hfi : s.slots.findIdx? (·.isNone) with
  | some i =>
    rw [hfi] at hslots
    obtain ⟨hi, _, _⟩ := List.findIdx?_eq_some_iff_getElem.mp hfi
    obtain ⟨h1, h2⟩ := hnew i (slot?_set_self hslots hi)
    exact (hq i (fun j hj => slot?_set_ne hslots hj)).rel_set r _ hrel hinv hlay (by rw [hslots, List.length_set]) hi h1 h2
  | none =>
    rw [hfi] at hslots
    obtain ⟨h1, h2⟩ := hnew _ (slot?_append_self hslots)
    have happ : ∀ {α : Type} (l : List α) (x : α) (j : Nat), j ≠ l.length → (l ++ [x])[j]? = l[j]? := by
      intro α l x j hj
      by_cases h : j < l.length
      · rw [List.getElem?_append_left h]
      · rw [List.getElem?_eq_none (by simp; omega), List.getElem?_eq_none (by omega)]
    refine (hq s.slots.length (fun j hj => slot?_append_ne hslots hj)).rel r _ hrel hinv hlay
      (by rw [List.length_append, hrel.1, hslots, List.length_append]; rfl) (fun j hj => happ _ _ _ (by rw [hrel.1]; exact hj))
      (fun j hj => ?_) (fun j X hj => by subst hj; exact h2 X)
    subst hj
    rw [h1, List.getElem?_append_right (by rw [hrel.1]; exact Nat.le_refl _), hrel.1]; simp

theorem create_shape (s : Db) (id : RegionId) (hf : s.findId id = none) (hnp : ¬IsPanic (s.create id).2)
    (hne : ∀ k, (s.create id).2 ≠ .err k) :
    ∃ sl : Slot, sl.md.id = id ∧ sl.md.len = 0 ∧
      (s.create id).1.slots = (match s.slots.findIdx? (·.isNone) with | some i => s.slots.set i (some sl) | none => s.slots ++ [some sl]) ∧
      MemFrame s.mem (s.create id).1.mem 0 0 := by
  obtain ⟨_, hsl, hm⟩ := createPre_same s
  let Q : Db × Out → Prop := fun r => ¬IsPanic r.2 → (∀ k, r.2 ≠ .err k) →
    ∃ sl : Slot, sl.md.id = id ∧ sl.md.len = 0 ∧
      r.1.slots = (match s.slots.findIdx? (·.isNone) with | some i => s.slots.set i (some sl) | none => s.slots ++ [some sl]) ∧
      MemFrame s.mem r.1.mem 0 0
  have key : ∀ (s1 : Db) (start : Nat), s1.slots = s.slots → s1.mem = (Db.createPre s).mem → Q (Db.createAt s1 id start) := by
    intro s1 start h1 h2
    refine Db.createAt_cases (P := Q) s1 id start (fun _ hnp _ => absurd trivial hnp) (fun _ _ _ => ?_)
    refine ⟨Db.fresh start id, rfl, rfl, ?_, by rw [(Db.added_rest s1 _ start id).2.2.2.2.1, h2]; exact hm⟩
    rw [Db.added_slots]
    rcases Db.freeIdx_eq s1 with ⟨i, hfi, e, hi, _⟩ | ⟨hfi, e⟩
    · rw [e, if_pos hi, ← h1, hfi]
    · rw [e, if_neg (Nat.lt_irrefl _), ← h1, hfi]
  exact Db.create_cases (P := Q) s id (fun idx hfi => by rw [hf] at hfi; cases hfi) (fun _ _ _ _ _ _ hne => absurd rfl (hne _))
    (fun _ hs _ _ _ => key { Db.createPre s with holes := hs } _ hsl rfl) (fun _ _ => key (Db.createPre s) _ hsl rfl) hnp hne

theorem rel_create (s : Db) (r : Ref) (id : RegionId) (hrel : Rel s r) (hinv : RInv s) (hnp : ¬IsPanic (s.create id).2)
    (hne : ∀ k, (s.create id).2 ≠ .err k) :
    Rel (s.create id).1 (refStep r (.create id)) ∧ RInv (s.create id).1 := by
  simp only [refStep]
  rw [← rel_findId s r hrel id]
  cases hf : s.findId id with
  | some idx =>
    rw [Db.create_found hf]; exact ⟨hrel, hinv⟩
  | none =>
    obtain ⟨sl, h1, h2, h3, h4⟩ := create_shape s id hf hnp hne
    exact rel_added s _ r id sl hrel hinv ((linv_create s id hinv.lay).resolve_left hnp) h1 h2 h3 h4

/-- A request addressed by name, as a case principle: the database acts on the slot the name is found in, the reference on the
entry there.  The database's side is written as the `match` that `s.withRegion id f` (with `o` = `noSuchRegion`) and
`s.removeId id x` (with `regionNotFound`, `f` = `(s.remove · x)`) both unfold to; the uses are accepted by that unfolding. -/
theorem rel_byName {Q : Db × Out → Ref → Prop} (s : Db) (r : Ref) (id : RegionId) (o : Out) (f : Nat → Db × Out)
    (g : RegionId × List UInt8 → Option (RegionId × List UInt8)) (hrel : Rel s r) (h0 : Q (s, o) r)
    (h : ∀ idx sl e, s.findId id = some idx → s.slot? idx = some sl → r[idx]?.join = some e → Q (f idx) (r.set idx (g e))) :
    Q (match s.findId id with | none => (s, o) | some idx => f idx) (refOn r id g) := by
  have hfind := rel_findId s r hrel id
  cases hf : s.findId id with
  | none => rw [refOn_none _ _ _ (by rw [← hfind, hf])]; exact h0
  | some idx =>
    obtain ⟨sl, hs, _⟩ := findId_some hf
    obtain ⟨e, he, _⟩ := rel_get s r idx sl hrel hs
    rw [refOn_some _ _ _ idx e (by rw [← hfind, hf]) he]
    exact h idx sl e hf hs he

theorem rel_write_step (s : Db) (r : Ref) (id : RegionId) (d : List UInt8) (at_ : Option Nat) (tr : Bool)
    (hrel : Rel s r) (hinv : RInv s)
    (hn : Normal (s.withRegion id (fun i => s.writeWith i d at_ tr)).2) :
    Rel (s.withRegion id (fun i => s.writeWith i d at_ tr)).1
      (refOn r id (refWriteE at_ tr d)) ∧
    RInv (s.withRegion id (fun i => s.writeWith i d at_ tr)).1 := by
  refine rel_byName (Q := fun p ρ => Normal p.2 → Rel p.1 ρ ∧ RInv p.1) s r id _ _ _ hrel (fun _ => ⟨hrel, hinv⟩)
    (fun idx sl e _ hs he hn => ?_) hn
  obtain ⟨_, e2, _⟩ := rel_at s r idx sl e hrel hs he
  unfold refWriteE
  rw [e2]
  rcases Db.writeWith_out hs (pair_of_snd rfl : s.writeWith idx d at_ tr = _) with ⟨hoob, et, _⟩ | ⟨hoob, ho | ⟨m, ho⟩ | ⟨k, ho, hk⟩⟩
  · -- refused: nothing happened, and the reference refuses too
    rw [et, hoob, if_pos rfl, set_self r idx e he]
    exact ⟨hrel, hinv⟩
  · rw [hoob]
    exact rel_writeWith s r idx d at_ tr sl e hrel hinv hs he ho
  · rw [ho] at hn; exact hn.elim
  · rw [ho] at hn; exact absurd hk (not_internal_of_normal hn)

theorem rel_step (s : Db) (r : Ref) (op : Op) (hrel : Rel s r) (hinv : RInv s) (hno : ∀ n, op ≠ .reopen n)
    (hn : Normal (step s op).2) : Rel (step s op).1 (refStep r op) ∧ RInv (step s op).1 := by
  cases op with
  | create id =>
    simp only [step] at hn ⊢
    refine rel_create s r id hrel hinv (fun hp => ?_) (fun k hk => ?_)
    · cases ho : (s.create id).2 <;> rw [ho] at hn hp <;> simp [Normal, IsPanic] at hn hp
    · -- the only error of create is the allocator's internal one
      rw [hk, Db.create_err (pair_of_snd hk)] at hn
      simp [Normal] at hn
  | write id d => exact rel_write_step s r id d none false hrel hinv hn
  | writeAt id a d => exact rel_write_step s r id d (some a) false hrel hinv hn
  | truncateWrite id a d => exact rel_write_step s r id d (some a) true hrel hinv hn
  | truncate id n =>
    exact rel_byName (Q := fun p ρ => Rel p.1 ρ ∧ RInv p.1) s r id _ _ _ hrel ⟨hrel, hinv⟩
      (fun idx sl e _ hs he => rel_truncate s r idx n sl e hrel hinv hs he)
  | rename id n =>
    -- the reference looks for the new name first
    simp only [refStep]
    rw [← rel_findId s r hrel n]
    exact rel_byName (Q := fun p ρ => Normal p.2 → Rel p.1 (if (s.findId n).isSome then r else ρ) ∧ RInv p.1) s r id _ _ _ hrel
      (fun _ => by rw [ite_self]; exact ⟨hrel, hinv⟩) (fun idx sl e _ hs he hn => rel_rename s r idx n sl e hrel hinv hs he hn) hn
  | remove id =>
    exact rel_byName (Q := fun p ρ => Rel p.1 ρ ∧ RInv p.1) s r id _ _ _ hrel ⟨hrel, hinv⟩
      (fun idx sl _ _ hs _ => rel_remove s r idx sl hrel hinv hs)
  | removeHeld id =>
    show Rel (s.removeId id true).1 r ∧ RInv (s.removeId id true).1
    rcases removeId_held s id with e | e
    · rw [e]; exact ⟨hrel, hinv⟩
    · rw [e]; exact ⟨hrel, hinv⟩
  | retain ids => exact rel_retain s r ids hrel hinv
  | flush => exact rel_quiet s s.flush.1 r hrel hinv (linv_flush s hinv.lay) (quiet_flush s)
  | regionFlush id =>
    exact withRegion_cases (P := fun p => Rel p.1 r ∧ RInv p.1) s id _ (fun _ => ⟨hrel, hinv⟩)
      (fun idx _ => rel_quiet s _ r hrel hinv ((same_regionFlush s idx).linv hinv.lay) (quiet_regionFlush s idx))
  | compact => exact rel_compact s r hrel hinv
  | reopen n => exact absurd rfl (hno n)
  | setMinLen n =>
    exact rel_quiet s (s.setMinLen n) r hrel hinv ((same_setMinLen s n).linv hinv.lay) (quiet_setMinLen s n hinv.bnd)
  | setMinRegions n =>
    obtain ⟨h1, h2⟩ := rel_quiet s (s.regionsSetMinSlots n) r hrel hinv ((same_regionsSetMinSlots s n).linv hinv.lay)
      (quiet_regionsSetMinSlots s n)
    show Rel (s.setMinRegions n) r ∧ RInv (s.setMinRegions n)
    rw [Db.setMinRegions_eq]
    exact rel_quiet _ _ r h1 h2 ((same_setMinLen _ _).linv h2.lay) (quiet_setMinLen _ _ h2.bnd)

end AnyDB.C01r
