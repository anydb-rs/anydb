import AnyDB.Lemmas.LayoutInv
/-!
Accounting: no unclaimed byte below a claimed one.

`Acc s`: the claimed bytes form an initial segment — with `LInv` (no byte claimed twice) every byte below the end of the
allocated area belongs to exactly one extent (region, reservation, free extent or pending free extent).  Every move of the
allocator leaves the number of extents covering each byte alone, or adds one extent on top of everything
(`Mv.li_acc`, `Lemmas/LayoutMoves.lean`).  `Layout::len()` is the end of everything claimed (`layoutLen_cases`, the second half
of `layoutLen_spec`, `Lemmas/LayoutInv.lean`; `top_layoutLen`).
-/
namespace AnyDB.C02r
open Conc Db

def Acc (s : Db) : Prop := ∀ x y, x ≤ y → 0 < cnt (claimedDb s) y → 0 < cnt (claimedDb s) x

theorem acc_init : Acc Db.init := by
  intro x y _ hy
  simp [claimedDb, exts, Db.init, cnt] at hy

theorem layoutLen_cases (s : Db) (h : LInv s) : s.layoutLen = 0 ∨ ∃ e ∈ claimedDb s, s.layoutLen = e.1 + e.2 :=
  (layoutLen_spec s h).2

theorem layoutLen_attained (s : Db) (h : LInv s) : s.layoutLen = 0 ∨ 0 < cnt (claimedDb s) (s.layoutLen - 1) :=
  (layoutLen_cases s h).imp id fun ⟨e, he, hl⟩ => hl ▸ claims_last_byte _ h.pos e he

theorem top_layoutLen {s : Db} (h : LInv s) : Top (claimedDb s) s.layoutLen :=
  ⟨fun x hx => free_from_len s h x hx, layoutLen_attained s h⟩

/-- what `Acc` is for: with no byte claimed twice, every byte below `Layout::len()` is claimed exactly once -/
theorem accounted (s : Db) (h : LInv s) (ha : Acc s) (x : Nat) (hx : x < s.layoutLen) : cnt (claimedDb s) x = 1 := by
  have h1 := h.one x
  rcases layoutLen_attained s h with h0 | hl
  · omega
  · have := ha x (s.layoutLen - 1) (by omega) hl
    omega

end AnyDB.C02r
