import AnyDB.Lemmas.LayoutOps
/-!
`Layout::from` on a slot table, with no state around it.  The regions collected by start (`insertByStart`, `triplesUpTo`) of a
table whose extents are non-empty and pairwise disjoint form a chain (`Chain`: sorted, each starting at or after the end of the
previous one), so the gap computation never underflows (`lfs_spec`), and the holes it creates are exactly the gaps: the layout
view it builds (`relaid`) satisfies the layout invariant and is fully accounted (`relaid_li`).
-/
namespace AnyDB.C02r
open Conc Db


abbrev T3 := Nat × Nat × Nat   -- (start, slot index, reserved)
def extT (t : T3) : E := (t.1, t.2.2)

/-- the triples form a chain from `p`: each starts at or after the end of the previous one and is non-empty -/
def Chain : Nat → List T3 → Prop
  | _, [] => True
  | p, t :: r => p ≤ t.1 ∧ 0 < t.2.2 ∧ Chain (t.1 + t.2.2) r

def endOf : Nat → List T3 → Nat
  | p, [] => p
  | _, t :: r => endOf (t.1 + t.2.2) r

theorem endOf_ge (p : Nat) (l : List T3) (h : Chain p l) : p ≤ endOf p l := by
  induction l generalizing p with
  | nil => exact Nat.le_refl _
  | cons t r ih =>
    obtain ⟨h1, h2, h3⟩ := h
    have := ih _ h3
    simp only [endOf]; omega

theorem ind_chain_cons (p st i res : Nat) (r : List T3) (x : Nat) (h : Chain p ((st, i, res) :: r)) :
    ind (p, endOf p ((st, i, res) :: r) - p) x =
      ind (p, st - p) x + (ind (st, res) x + ind (st + res, endOf (st + res) r - (st + res)) x) := by
  have hend : st + res ≤ endOf (st + res) r := endOf_ge _ _ h.2.2
  show ind (p, endOf (st + res) r - p) x = _
  rw [ind_cut p st _ x h.1 (Nat.le_trans (Nat.le_add_right _ _) hend), ind_cut st (st + res) _ x (Nat.le_add_right _ _) hend,
    Nat.add_sub_cancel_left]

/-- `Layout::from` on a chain: it succeeds, and the holes it adds are exactly the gaps: together with the regions they cover
every byte of `[p, end)` exactly once and nothing else; each starts at `p` or at the end of a region, and ends where a region
starts -/
theorem lfs_spec (l : List T3) : ∀ (p : Nat) (acc : List E), Chain p l →
    ∃ H, layoutFromSorted l p acc = some (acc ++ H) ∧ Pos H ∧
      (∀ x, cnt H x + cnt (l.map extT) x = ind (p, endOf p l - p) x) ∧
      ∀ e ∈ H, (e.1 = p ∨ ∃ t ∈ l, e.1 = t.1 + t.2.2) ∧ ∃ t ∈ l, e.1 + e.2 = t.1 := by
  induction l with
  | nil =>
    intro p acc _
    refine ⟨[], by rw [List.append_nil]; rfl, (fun _ he => nomatch he), fun x => ?_, fun _ he => nomatch he⟩
    show 0 + 0 = ind (p, p - p) x
    rw [Nat.sub_self, ind_empty]
  | cons t r ih =>
    intro p acc hc
    obtain ⟨st, i, res⟩ := t
    have h1 : p ≤ st := hc.1
    have hm : ∀ x, cnt (((st, i, res) :: r).map extT) x = ind (st, res) x + cnt (r.map extT) x := fun _ => rfl
    -- where a hole of the rest lies, said of the whole list
    have lift : ∀ e : E, ((e.1 = st + res ∨ ∃ t ∈ r, e.1 = t.1 + t.2.2) ∧ ∃ t ∈ r, e.1 + e.2 = t.1) →
        (e.1 = p ∨ ∃ t ∈ (st, i, res) :: r, e.1 = t.1 + t.2.2) ∧ ∃ t ∈ (st, i, res) :: r, e.1 + e.2 = t.1 := by
      rintro e ⟨a, t', ht', b⟩
      refine ⟨Or.inr ?_, t', List.mem_cons_of_mem _ ht', b⟩
      rcases a with a | ⟨t, ht, a⟩
      · exact ⟨(st, i, res), List.mem_cons_self .., a⟩
      · exact ⟨t, List.mem_cons_of_mem _ ht, a⟩
    by_cases heq : p = st
    · -- no gap: the holes are those of the rest
      obtain ⟨H, e1, e2, e3, e4⟩ := ih (st + res) acc hc.2.2
      refine ⟨H, by rw [layoutFromSorted, if_pos heq]; exact e1, e2, fun x => ?_, fun e he => lift e (e4 e he)⟩
      rw [ind_chain_cons p st i res r x hc, ← e3 x, hm, heq, Nat.sub_self, ind_empty, Nat.zero_add, Nat.add_left_comm]
    · -- a gap: one more hole, in front
      obtain ⟨H, e1, e2, e3, e4⟩ := ih (st + res) (acc ++ [(p, st - p)]) hc.2.2
      refine ⟨(p, st - p) :: H, ?_, ?_, fun x => ?_, fun e he => ?_⟩
      · rw [layoutFromSorted, if_neg heq, if_neg (Nat.not_lt.mpr h1), e1, List.append_assoc]; rfl
      · intro e he
        rcases List.mem_cons.mp he with h | h
        · rw [h]; exact Nat.sub_pos_of_lt (Nat.lt_of_le_of_ne h1 heq)
        · exact e2 e h
      · rw [ind_chain_cons p st i res r x hc, ← e3 x, hm, cnt_cons, Nat.add_assoc, Nat.add_left_comm (cnt H x)]
      · rcases List.mem_cons.mp he with h | h
        · rw [h]; exact ⟨Or.inl rfl, (st, i, res), List.mem_cons_self .., Nat.add_sub_cancel' h1⟩
        · exact lift e (e4 e h)

theorem chain_of_sorted (l : List T3) (p : Nat) (hs : l.Pairwise (fun a b => a.1 < b.1))
    (ha : l.Pairwise (fun a b => a.1 + a.2.2 ≤ b.1 ∨ b.1 + b.2.2 ≤ a.1)) (hp : ∀ t ∈ l, 0 < t.2.2) (hlo : ∀ t ∈ l, p ≤ t.1) :
    Chain p l := by
  induction l generalizing p with
  | nil => trivial
  | cons t r ih =>
    obtain ⟨s1, s2⟩ := List.pairwise_cons.mp hs
    obtain ⟨a1, a2⟩ := List.pairwise_cons.mp ha
    refine ⟨hlo t (List.mem_cons_self ..), hp t (List.mem_cons_self ..), ih _ s2 a2 (fun x hx => hp x (List.mem_cons_of_mem _ hx)) ?_⟩
    intro b hb
    have := s1 b hb
    have hpb := hp b (List.mem_cons_of_mem _ hb)
    rcases a1 b hb with h | h
    · exact h
    · omega

theorem mem_insertByStart (l : List T3) (t x : T3) (h : x ∈ insertByStart l t) : x = t ∨ x ∈ l := by
  induction l with
  | nil => exact Or.inl (List.mem_singleton.mp h)
  | cons a r ih =>
    rw [insertByStart] at h
    by_cases h1 : t.1 < a.1
    · rw [if_pos h1] at h; exact List.mem_cons.mp h
    · rw [if_neg h1] at h
      by_cases h2 : t.1 = a.1
      · rw [if_pos h2] at h; exact (List.mem_cons.mp h).imp_right (List.mem_cons_of_mem _)
      · rw [if_neg h2] at h
        rcases List.mem_cons.mp h with e | e
        · exact Or.inr (e ▸ List.mem_cons_self ..)
        · exact (ih e).imp_right (List.mem_cons_of_mem _)

theorem insertByStart_mem_self (l : List T3) (t : T3) : t ∈ insertByStart l t := by
  induction l with
  | nil => exact List.mem_singleton.mpr rfl
  | cons a r ih =>
    rw [insertByStart]
    split
    · exact List.mem_cons_self ..
    · split
      · exact List.mem_cons_self ..
      · exact List.mem_cons_of_mem _ ih

theorem insertByStart_keeps (l : List T3) (t y : T3) (hy : y ∈ l) (hne : y.1 ≠ t.1) : y ∈ insertByStart l t := by
  induction l with
  | nil => cases hy
  | cons a r ih =>
    rw [insertByStart]
    by_cases h1 : t.1 < a.1
    · rw [if_pos h1]; exact List.mem_cons_of_mem _ hy
    · rw [if_neg h1]
      by_cases h2 : t.1 = a.1
      · -- `a` is replaced, and `y` is not `a`
        rw [if_pos h2]
        rcases List.mem_cons.mp hy with e | e
        · rw [e] at hne; exact absurd h2.symm hne
        · exact List.mem_cons_of_mem _ e
      · rw [if_neg h2]
        rcases List.mem_cons.mp hy with e | e
        · rw [e]; exact List.mem_cons_self ..
        · exact List.mem_cons_of_mem _ (ih e)

theorem insertByStart_sorted (l : List T3) (t : T3) (hs : l.Pairwise (fun a b => a.1 < b.1)) :
    (insertByStart l t).Pairwise (fun a b => a.1 < b.1) := by
  induction l with
  | nil => exact List.pairwise_singleton _ _
  | cons a r ih =>
    obtain ⟨s1, s2⟩ := List.pairwise_cons.mp hs
    rw [insertByStart]
    by_cases h1 : t.1 < a.1
    · rw [if_pos h1]
      refine List.pairwise_cons.mpr ⟨fun b hb => ?_, hs⟩
      rcases List.mem_cons.mp hb with e | e
      · rw [e]; exact h1
      · exact Nat.lt_trans h1 (s1 b e)
    · rw [if_neg h1]
      by_cases h2 : t.1 = a.1
      · rw [if_pos h2]
        exact List.pairwise_cons.mpr ⟨fun b hb => h2 ▸ s1 b hb, s2⟩
      · rw [if_neg h2]
        refine List.pairwise_cons.mpr ⟨fun b hb => ?_, ih s2⟩
        rcases mem_insertByStart r t b hb with e | e
        · rw [e]; omega
        · exact s1 b e

def tripleAt (L : List (Option Slot)) (i : Nat) : Option T3 := (L[i]?.join).map (fun sl => (sl.md.start, i, sl.md.reserved))

/-- the regions `Layout::from` has collected, by start, after the first `k` slots -/
def triplesUpTo (L : List (Option Slot)) (k : Nat) : List T3 :=
  (List.range k).foldl (fun acc i => match (L[i]?).join with
    | some sl => insertByStart acc (sl.md.start, i, sl.md.reserved)
    | none => acc) []

theorem triplesUpTo_succ (L : List (Option Slot)) (k : Nat) :
    triplesUpTo L (k + 1) = (match (L[k]?).join with
      | some sl => insertByStart (triplesUpTo L k) (sl.md.start, k, sl.md.reserved)
      | none => triplesUpTo L k) := by
  unfold triplesUpTo
  rw [List.range_succ, List.foldl_append]; rfl

theorem triples_spec (L : List (Option Slot))
    (hd : ∀ (i j : Nat) (a b : Slot), (L[i]?).join = some a → (L[j]?).join = some b → a.md.start = b.md.start → i = j) (k : Nat) :
    (triplesUpTo L k).Pairwise (fun a b => a.1 < b.1) ∧
    (∀ x ∈ triplesUpTo L k, x.2.1 < k ∧ tripleAt L x.2.1 = some x) ∧
    (∀ i, i < k → ∀ t, tripleAt L i = some t → t ∈ triplesUpTo L k) := by
  induction k with
  | zero => exact ⟨by simp [triplesUpTo], fun x hx => by simp [triplesUpTo] at hx, fun i hi => by omega⟩
  | succ k ih =>
    obtain ⟨i1, i2, i3⟩ := ih
    rw [triplesUpTo_succ]
    cases hk : (L[k]?).join with
    | none =>
      simp only
      refine ⟨i1, fun x hx => ⟨by have := (i2 x hx).1; omega, (i2 x hx).2⟩, fun i hi t ht => ?_⟩
      by_cases hik : i = k
      · subst hik; unfold tripleAt at ht; rw [hk] at ht; cases ht
      · exact i3 i (by omega) t ht
    | some sl =>
      simp only
      refine ⟨insertByStart_sorted _ _ i1, fun x hx => ?_, fun i hi t ht => ?_⟩
      · rcases mem_insertByStart _ _ x hx with e | e
        · rw [e]; exact ⟨by simp, by unfold tripleAt; simp only; rw [hk]; rfl⟩
        · exact ⟨by have := (i2 x e).1; omega, (i2 x e).2⟩
      · obtain ⟨a, hi', rfl⟩ := Option.map_eq_some_iff.mp ht
        by_cases hik : i = k
        · subst hik
          cases hi'.symm.trans hk
          exact insertByStart_mem_self _ _
        · -- a different index cannot have the same start
          exact insertByStart_keeps _ _ _ (i3 i (by omega) _ ht) (fun hst => hik (hd i k a sl hi' hk hst))

/-- the layout view `Layout::from` builds over the slot table `L`: the regions by start, the gaps `H` as holes -/
def relaid (L : List (Option Slot)) (H : List E) : Lay :=
  ⟨L.map (fun o => o.map extOf), (triplesUpTo L L.length).map (fun t => (t.1, t.2.1)), [], H, []⟩

/-- `Layout::from` over any slot table whose extents are non-empty and pairwise disjoint: it does not fail, the view it builds
satisfies the layout invariant and is fully accounted, and every hole starts at the origin or at the end of a region and ends where
a region starts -/
theorem relaid_li (L : List (Option Slot)) (hp : Pos (exts L)) (ho : One (exts L)) :
    ∃ H, layoutFromSorted (triplesUpTo L L.length) 0 [] = some H ∧ LI (relaid L H) ∧
      AccL (relaid L H).cl ∧
      (∀ e ∈ H, (e.1 = 0 ∨ ∃ j : Nat, ∃ sl : Slot, (L[j]?).join = some sl ∧ e.1 = sl.md.start + sl.md.reserved) ∧
        ∃ j : Nat, ∃ sl : Slot, (L[j]?).join = some sl ∧ e.1 + e.2 = sl.md.start) := by
  have hsome : ∀ (i : Nat) (sl : Slot), (L[i]?).join = some sl → L[i]? = some (some sl) := fun i sl h => Option.join_eq_some_iff.mp h
  have hmemL : ∀ (i : Nat) (sl : Slot), (L[i]?).join = some sl → extOf sl ∈ exts L := fun i sl h => (mem_exts L _).mpr ⟨i, sl, hsome i sl h, rfl⟩
  have hposL : ∀ (i : Nat) (sl : Slot), (L[i]?).join = some sl → 0 < sl.md.reserved := fun i sl h => hp _ (hmemL i sl h)
  have hap : ∀ (i j : Nat) (a b : Slot), i ≠ j → (L[i]?).join = some a → (L[j]?).join = some b →
      a.md.start + a.md.reserved ≤ b.md.start ∨ b.md.start + b.md.reserved ≤ a.md.start := fun i j a b hij h1 h2 =>
    table_apart L hp ho i j a b hij (hsome i a h1) (hsome j b h2)
  have hd : ∀ (i j : Nat) (a b : Slot), (L[i]?).join = some a → (L[j]?).join = some b → a.md.start = b.md.start → i = j := by
    intro i j a b h1 h2 h3
    refine Decidable.byContradiction fun hij => ?_
    have := hap i j a b hij h1 h2
    have := hposL i a h1
    have := hposL j b h2
    omega
  obtain ⟨t1, t2, t3⟩ := triples_spec L hd L.length
  generalize hT : triplesUpTo L L.length = T at t1 t2 t3
  have hmem : ∀ x ∈ T, ∃ sl, (L[x.2.1]?).join = some sl ∧ x = (sl.md.start, x.2.1, sl.md.reserved) := by
    intro x hx
    obtain ⟨sl, hj, h2⟩ := Option.map_eq_some_iff.mp (t2 x hx).2
    exact ⟨sl, hj, h2.symm⟩
  have hin : ∀ (i : Nat) (sl : Slot), (L[i]?).join = some sl → (sl.md.start, i, sl.md.reserved) ∈ T := fun i sl h =>
    t3 i (List.getElem?_eq_some_iff.mp (hsome i sl h)).1 _ (by unfold tripleAt; rw [h]; rfl)
  have hposT : ∀ t ∈ T, 0 < t.2.2 := by
    intro t ht
    obtain ⟨sl, s1, s2⟩ := hmem t ht
    rw [s2]; exact hposL t.2.1 sl s1
  have hapart : T.Pairwise (fun a b => a.1 + a.2.2 ≤ b.1 ∨ b.1 + b.2.2 ≤ a.1) := by
    refine List.Pairwise.imp_of_mem ?_ t1
    intro a b ha' hb' hlt
    obtain ⟨sa, sa1, sa2⟩ := hmem a ha'
    obtain ⟨sb, sb1, sb2⟩ := hmem b hb'
    have hne : a.2.1 ≠ b.2.1 := by
      intro e
      rw [e] at sa1; rw [sa1] at sb1; cases sb1
      rw [sa2, sb2] at hlt; simp only at hlt; omega
    have := hap a.2.1 b.2.1 sa sb hne sa1 sb1
    rw [sa2, sb2]; exact this
  obtain ⟨H, e1, e2, e3, e4⟩ := lfs_spec T 0 [] (chain_of_sorted T 0 t1 hapart hposT (fun _ _ => Nat.zero_le _))
  rw [List.nil_append] at e1
  have hholes : ∀ e ∈ H, (e.1 = 0 ∨ ∃ j : Nat, ∃ sl : Slot, (L[j]?).join = some sl ∧ e.1 = sl.md.start + sl.md.reserved) ∧
      ∃ j : Nat, ∃ sl : Slot, (L[j]?).join = some sl ∧ e.1 + e.2 = sl.md.start := by
    intro e he
    obtain ⟨a, t, ht, b⟩ := e4 e he
    obtain ⟨sl, s1, s2⟩ := hmem t ht
    refine ⟨?_, t.2.1, sl, s1, by rw [b, s2]⟩
    rcases a with a | ⟨t, ht, a⟩
    · exact Or.inl a
    · obtain ⟨sl, s1, s2⟩ := hmem t ht
      exact Or.inr ⟨t.2.1, sl, s1, by rw [a, s2]⟩
  have hsl : (L.map (fun o => o.map extOf)).filterMap id = exts L := (exts_map L).symm
  have hget := map_extOf_get L
  -- the regions collected cover what the slots cover
  have hcov : ∀ x, 0 < cnt (exts L) x → 0 < cnt (T.map extT) x := cnt_pos_of_subset fun e he => by
    obtain ⟨i, sl, hi, rfl⟩ := (mem_exts L e).mp he
    exact List.mem_map.mpr ⟨_, hin i sl (by rw [hi]; rfl), rfl⟩
  have hcov2 : ∀ x, 0 < cnt (T.map extT) x → 0 < cnt (exts L) x := cnt_pos_of_subset fun e he => by
    obtain ⟨t, ht, rfl⟩ := List.mem_map.mp he
    obtain ⟨sl, s1, s2⟩ := hmem t ht
    rw [s2]; exact hmemL _ sl s1
  have hclaim : ∀ x, cnt (relaid L H).cl x = cnt (exts L) x + cnt H x := by
    intro x; rw [Lay.cnt_cl]; show cnt ((L.map _).filterMap id) x + cnt [] x + cnt H x + cnt [] x = _
    rw [hsl]; simp only [cnt_nil]; omega
  have hspec : ∀ x, cnt H x + cnt (T.map extT) x ≤ 1 := fun x => by rw [e3 x]; exact ind_le_one _ x
  refine ⟨H, e1, ⟨fun x => ?_, fun e he => ?_, fun i st r hv => ?_, fun st i hm => ?_⟩, fun x y hxy hy => ?_, hholes⟩
  · rw [hclaim]
    have h1 := ho x
    have h2 := hspec x
    by_cases hc : 0 < cnt (exts L) x
    · have := hcov x hc; omega
    · omega
  · rcases ((relaid L H).mem_cl e).mp he with h | h | h | h
    · exact hp e (hsl ▸ h)
    · cases h
    · exact e2 e h
    · cases h
  · -- a live slot is registered under its start
    obtain ⟨sl', hLi, hext⟩ := (hget i _).mp hv
    simp only [extOf, Prod.mk.injEq] at hext
    exact List.mem_map.mpr ⟨_, hT ▸ hin i sl' hLi, by rw [hext.1]⟩
  · -- and what is registered is a live slot
    obtain ⟨t, ht, hte⟩ := List.mem_map.mp hm
    rw [hT] at ht
    simp only [Prod.mk.injEq] at hte
    obtain ⟨sl', hj, h2⟩ := Option.map_eq_some_iff.mp (t2 t ht).2
    refine ⟨sl'.md.reserved, (hget i _).mpr ⟨sl', by rw [← hte.2]; exact hj, ?_⟩⟩
    rw [← hte.1, ← h2]; rfl
  · rw [hclaim] at hy ⊢
    -- everything claimed lies below the end of the chain; every byte below it is claimed
    have hy' : 0 < cnt H y + cnt (T.map extT) y := by
      by_cases hc : 0 < cnt (exts L) y
      · have := hcov y hc; omega
      · omega
    rw [e3 y] at hy'
    have hyin : 0 ≤ y ∧ y < 0 + (endOf 0 T - 0) := by
      by_cases hc : 0 ≤ y ∧ y < 0 + (endOf 0 T - 0)
      · exact hc
      · rw [ind_neg _ _ _ hc] at hy'; omega
    have hx' := e3 x
    rw [ind_pos _ _ _ (by omega)] at hx'
    by_cases hc : 0 < cnt (T.map extT) x
    · have := hcov2 x hc; omega
    · omega

end AnyDB.C02r
