import AnyDB.Lemmas.LayoutOps

/-!
From moves of the layout view to the four invariants of a state.

`Keeps s f`: `f` satisfies the layout invariant (`LInv`), and accounting (`Acc`), alignment (`Al`) and "inside the file"
(`InF`) carry over from `s`.  A state with the same layout view is kept, so is one that is one move away, provided the piece
handed out is aligned and fits the file; `Keeps` composes.  `KeepsP s r` is the form for an operation with its answer: an
operation that panics may stop half way through a move, and then still keeps every extent inside the file.

Each operation is walked through once, on its table in `Lemmas/RawdbSteps.lean`, and `step_keeps` collects them for a request.
Two forms of statement: an operation that `step` calls is stated for the call (`remove_keeps s idx extra h : Keeps s
(s.remove idx extra).1`), which is what `step_keeps` needs; a placement path of `write_with` is stated like its table, for a result
named by a hypothesis (`writeExpand_keeps … (hw : s.writeExpand … = (t, o))`): `hw` goes to the table as it is, and where the path
can panic the conclusion (`KeepsP s (t, o)`) speaks of `o`.
The statements about one invariant and one operation at the end of the file are projections.
-/
namespace AnyDB.C02r
open Conc Db

structure Keeps (s f : Db) : Prop where
  li : LInv f
  acc : Acc s → Acc f
  al : Al s → Al f
  inf : InF s → InF f

theorem Keeps.refl {s : Db} (h : LInv s) : Keeps s s := ⟨h, id, id, id⟩
theorem Keeps.trans {a b c : Db} (h1 : Keeps a b) (h2 : Keeps b c) : Keeps a c :=
  ⟨h2.li, fun h => h2.acc (h1.acc h), fun h => h2.al (h1.al h), fun h => h2.inf (h1.inf h)⟩

theorem Keeps.of_same {s f : Db} (h : LInv s) (hs : Same s f) : Keeps s f := ⟨hs.linv h, hs.acc, hs.al, hs.inf⟩

theorem Keeps.of_mv {s f : Db} {p : Option E} (h : LInv s) (m : Mv p (lay s) (lay f)) (sz : Sz s f)
    (hal : Al s → ∀ e, p = some e → AlE e) (hfit : InF s → ∀ e, p = some e → e.1 + e.2 ≤ f.mem.size) : Keeps s f :=
  ⟨(m.linv h).1, (m.linv h).2, fun ha => m.claimed seg_al (hal ha) ha,
    fun hi => ⟨sz.1 hi.1, m.claimed (seg_in f.mem.size) (hfit hi) (inL_mono _ _ _ hi.2 sz.2)⟩⟩

theorem Keeps.of_alloc {s f : Db} {a n : Nat} (h : LInv s) (m : Mv (some (a, n)) (lay s) (lay f)) (sz : Sz s f)
    (hal : Al s → AlE (a, n)) (hfit : InF s → a + n ≤ f.mem.size) : Keeps s f :=
  Keeps.of_mv h m sz (fun ha _ he => by cases he; exact hal ha) (fun hi _ he => by cases he; exact hfit hi)

theorem Keeps.of_quiet {s f : Db} (h : LInv s) (m : Mv none (lay s) (lay f)) (sz : Sz s f) : Keeps s f :=
  Keeps.of_mv h m sz (fun _ _ he => by cases he) (fun _ _ he => by cases he)

/-- the operation stopped at one of its assertions, possibly half way through -/
def IsPanic : Out → Prop
  | .panic _ => True
  | _ => False

/-- `InF` is asked even of a panic: `inf_step` promises it of every request, with no escape for a panic.  That is what `inf_take`,
the "reservation too large" branch of `writeRelocate_keeps` and the first half of `createAt_keeps` are for. -/
def KeepsP (s : Db) (r : Db × Out) : Prop := (InF s → InF r.1) ∧ (IsPanic r.2 ∨ Keeps s r.1)

theorem Keeps.p {s : Db} {r : Db × Out} (h : Keeps s r.1) : KeepsP s r := ⟨h.inf, Or.inr h⟩
theorem Keeps.bind {s m : Db} {r : Db × Out} (h1 : Keeps s m) (h2 : KeepsP m r) : KeepsP s r :=
  ⟨fun h => h2.1 (h1.inf h), h2.2.imp id h1.trans⟩

/-- a move stated for a view that is yet to be recognised as the view of the state reached -/
theorem Mv.to {p : Option E} {L L' L'' : Lay} (m : Mv p L L') (e : L'' = L') : Mv p L L'' := e ▸ m

theorem remove_keeps (s : Db) (idx : Nat) (extra : Bool) (h : LInv s) : Keeps s (s.remove idx extra).1 := by
  refine remove_state s idx extra (Keeps.refl h) (fun sl hs hg => absurd (region_of_slot h hs) hg) (fun sl hs _ => ?_)
  refine Keeps.of_quiet h ((Mv.removed idx (extOf sl) (slot_vs hs)).to ?_) (sz_of_eq rfl rfl)
  simp only [lay, vs, dropped, List.map_set, Option.map_none]
  rfl

theorem removeId_keeps (s : Db) (id : RegionId) (extra : Bool) (h : LInv s) : Keeps s (s.removeId id extra).1 :=
  removeId_cases (P := fun r => Keeps s r.1) s id extra (fun _ => Keeps.refl h) (fun idx _ => remove_keeps s idx extra h)

theorem retain_keeps (s : Db) (keep : List RegionId) (h : LInv s) : Keeps s (s.retain keep).1 :=
  retain_ind (P := fun r => Keeps s r.1) s keep (Keeps.refl h)
    (fun t i ht _ => ht.trans (remove_keeps t i false ht.li))

theorem flush_keeps (s : Db) (h : LInv s) : Keeps s s.flush.1 := by
  rw [Db.flush_eq]
  have h1 := Keeps.of_same h (same_flushPre s)
  exact h1.trans (Keeps.of_quiet h1.li ((Mv.promote _).to rfl) (sz_of_eq rfl rfl))

theorem compact_keeps (s : Db) (h : LInv s) : Keeps s s.compact.1 := by
  have hf := flush_keeps s h
  rw [compact_eq]
  exact hf.trans (Keeps.of_same hf.li (same_punchHoles s.flush.1))

theorem tail_keeps {s2 t : Db} {o : Out} {idx : Nat} {sl' : Slot} {off : Nat} {d : List UInt8} {wo nl : Nat} (h : LInv s2)
    (hslot : s2.slot? idx = some sl') (w : WriteTail s2 idx sl' off d wo nl t o) : Keeps s2 t := by
  rcases w with ⟨_, e, _⟩ | ⟨s3, hw, e, _⟩
  · rw [e]; exact Keeps.refl h
  · have h3 := same_dataWrite _ s3 _ _ hw
    obtain ⟨old, ho, he⟩ := same_slot _ s3 h3 idx _ hslot
    rw [e]
    exact Keeps.of_same h (h3.trans (same_finishWrite s3 idx old _ _ _ _ ho he.symm))

/-- the new reservation is written `reserved + (nr - reserved)`, as `Dst.grow` has it -/
theorem lay_regrow (s : Db) (idx : Nat) (sl : Slot) (nr : Nat) (hr : sl.md.reserved ≤ nr) :
    lay (s.setSlot idx (some (metaSetReserved sl nr))) =
      { lay s with slots := (lay s).slots.set idx (some (sl.md.start, sl.md.reserved + (nr - sl.md.reserved))) } := by
  simp only [lay, vs_setSlot, Option.map_some, extOf_metaSetReserved, Nat.add_sub_cancel' hr]
  rfl

theorem writeExtendLast_keeps {s t : Db} {o : Out} {idx : Nat} {sl : Slot} {d : List UInt8} {wo nl nr : Nat} (h : LInv s)
    (hs : s.slot? idx = some sl) (hl : s.isLastAnything idx = true) (hr : sl.md.reserved < nr)
    (hn : Al s → nr % Gen.PAGE_SIZE = 0) (hw : s.writeExtendLast idx sl d wo nl nr = (t, o)) : Keeps s t := by
  rcases writeExtendLast_spec hw with ⟨_, e, _⟩ | ⟨_, w⟩
  · rw [e]; exact Keeps.refl h
  · have htop : Top (claimedDb s) (sl.md.start + sl.md.reserved) :=
      ⟨isLast_free s h idx sl hs hl, Or.inr (claims_last_byte _ h.pos _ (extOf_mem_claimed s idx sl hs))⟩
    generalize hs2 : (s.setSlot idx (some (metaSetReserved sl nr))).setMinLen (sl.md.start + nr) = s2 at w
    have hsame : Same (s.setSlot idx (some (metaSetReserved sl nr))) s2 := hs2 ▸ same_setMinLen _ _
    have hsz : Sz s s2 := hs2 ▸ sz_setMinLen (s.setSlot idx (some (metaSetReserved sl nr))) _
    have hk : Keeps s s2 := by
      refine Keeps.of_alloc h ((Mv.alloc (a := sl.md.start + sl.md.reserved) (n := nr - sl.md.reserved) (by omega)
        (Src.top_of htop) (Dst.grow idx _ _ (slot_vs hs) rfl)).to ?_) hsz (fun ha => ?_) (fun hi => ?_)
      · rw [same_lay hsame, lay_regrow s idx sl nr (Nat.le_of_lt hr)]
      · exact seg_al.cut _ _ _ hr ⟨(alE_slot s ha idx sl hs).1, hn ha⟩ (alE_slot s ha idx sl hs)
      · have := le_fileLen_setMinLen (s.setSlot idx (some (metaSetReserved sl nr))) (sl.md.start + nr)
        rw [hs2, hsz.1 hi.1] at this
        omega
    have hslot2 : s2.slot? idx = some (metaSetReserved sl nr) := by
      rw [slot?_congr (hs2 ▸ (setMinLen_rest _ _).1) idx]
      exact slot?_set_self rfl (slot?_lt hs)
    exact hk.trans (tail_keeps hk.li hslot2 w)

/-- a panicking operation may leave the front of a hole taken and not yet given to anyone -/
theorem inf_take (s : Db) (hs' : List E) (a b : Nat) (hi : InF s) (hrc : removeOrCompress s.holes a b = .ok hs')
    (hb : a + b ≤ s.mem.size) : InF { s with holes := hs' } := by
  obtain ⟨a1, a2, a3, a4⟩ := (inf_parts s _).mp hi.2
  exact ⟨hi.1, (inf_parts _ _).mpr ⟨a1, a2, all_removeOrCompress (seg_in _) _ _ _ _ a3 hb hrc, a4⟩⟩

theorem writeExpand_keeps {s t : Db} {o : Out} {idx : Nat} {sl : Slot} {d : List UInt8} {wo nl nr : Nat} (h : LInv s)
    (hs : s.slot? idx = some sl) (hr : sl.md.reserved < nr) (hc : s.canExpand sl nr = true)
    (hn : Al s → nr % Gen.PAGE_SIZE = 0) (hw : s.writeExpand idx sl d wo nl nr = (t, o)) : KeepsP s (t, o) := by
  obtain ⟨gap, hg, hgap⟩ := canExpand_true hc
  have hfit : InF s → sl.md.start + sl.md.reserved + (nr - sl.md.reserved) ≤ s.mem.size := fun hi => by
    have := inE_hole s hi _ (mem_of_alGet s.holes _ gap hg)
    simp only at this
    omega
  rcases writeExpand_spec hw with ⟨_, _, e, _⟩ | ⟨hs', hrc, ⟨_, e, eo⟩ | ⟨_, w⟩⟩
  · rw [e]; exact (Keeps.refl h).p
  · rw [e, eo]; exact ⟨fun hi => inf_take s hs' _ _ hi hrc (hfit hi), Or.inl trivial⟩
  · have hs2 : ({ s with holes := hs' } : Db).slot? idx = some sl := hs
    have hk : Keeps s (({ s with holes := hs' } : Db).setSlot idx (some (metaSetReserved sl nr))) := by
      refine Keeps.of_alloc h ((Mv.alloc (a := sl.md.start + sl.md.reserved) (n := nr - sl.md.reserved) (by omega)
        (Src.hole gap hs' hg hrc) (Dst.grow idx _ _ (slot_vs hs) rfl)).to ?_) (sz_of_eq rfl rfl) (fun ha => ?_) hfit
      · rw [lay_regrow _ idx sl nr (Nat.le_of_lt hr)]; rfl
      · exact seg_al.cut _ _ _ hr ⟨(alE_slot s ha idx sl hs).1, hn ha⟩ (alE_slot s ha idx sl hs)
    exact (hk.trans (tail_keeps hk.li (slot?_set_self rfl (slot?_lt hs2)) w)).p

theorem placeRelocation_mv (s s' : Db) (h : LInv s) (nr ns : Nat) (hnr : 0 < nr) (hp : s.placeRelocation nr = .ok (s', ns)) :
    Mv (some (ns, nr)) (lay s) (lay s') ∧ Sz s s' ∧ (Al s → ns % Gen.PAGE_SIZE = 0) ∧ (InF s → ns + nr ≤ s'.mem.size) ∧
    (ns, nr) ∈ s'.reserved ∧ s'.slots = s.slots ∧ s'.regions = s.regions := by
  rcases placeRelocation_placed hp with ⟨hs, hb, hrc, rfl⟩ | ⟨hb, rfl, rfl⟩
  · obtain ⟨size, hg, hsz⟩ := bestFit_hole s h nr ns hb
    have hm := mem_of_alGet s.holes ns size hg
    refine ⟨(Mv.alloc hnr (Src.hole size hs hg hrc) Dst.reserve).to rfl, sz_of_eq rfl rfl,
      fun ha => (alE_hole s ha _ hm).1, fun hi => ?_, by simp, rfl, rfl⟩
    have := inE_hole s hi _ hm
    simp only at this ⊢
    omega
  · have hsm := same_setMinLen { s with reserved := s.reserved ++ [(s.layoutLen, nr)] } (s.layoutLen + nr)
    have hsz := sz_setMinLen { s with reserved := s.reserved ++ [(s.layoutLen, nr)] } (s.layoutLen + nr)
    refine ⟨(Mv.alloc hnr (Src.top_of (top_layoutLen h)) Dst.reserve).to (same_lay hsm), hsz,
      fun ha => layoutLen_aligned s h ha, fun hi => ?_, by rw [hsm.2.2.1]; simp, (setMinLen_rest _ _).1, hsm.2.1⟩
    exact (setMinLen_inf { s with reserved := s.reserved ++ [(s.layoutLen, nr)] } _ hi.1).2.2

theorem placeRelocation_keeps (s s' : Db) (h : LInv s) (nr ns : Nat) (hnr : 0 < nr) (hn : Al s → nr % Gen.PAGE_SIZE = 0)
    (hp : s.placeRelocation nr = .ok (s', ns)) : Keeps s s' ∧ (ns, nr) ∈ s'.reserved ∧ s'.slots = s.slots := by
  obtain ⟨m, sz, h1, h2, p2, p3, _⟩ := placeRelocation_mv s s' h nr ns hnr hp
  exact ⟨Keeps.of_alloc h m sz (fun ha => ⟨h1 ha, hn ha⟩) h2, p2, p3⟩

theorem lay_writeIfDirty (s : Db) (idx : Nat) (sl : Slot) :
    lay (s.writeIfDirty idx sl) = { lay s with slots := (lay s).slots.set idx (some (extOf sl)) } := by
  rw [writeIfDirty_eq]
  simp only [lay, vs, List.map_set, Option.map_some, extOf_stored]

theorem writeRelocate_keeps {s t : Db} {o : Out} {idx : Nat} {sl : Slot} {d : List UInt8} {wo nl nr cl ns : Nat}
    (h : LInv s) (hs : s.slot? idx = some sl) (hres : (ns, nr) ∈ s.reserved)
    (hw : s.writeRelocate idx sl d wo nl nr cl ns = (t, o)) : KeepsP s (t, o) := by
  rcases writeRelocate_spec hw with ⟨_, _, e, _⟩ | ⟨s1, hc, ⟨_, e, _⟩ | ⟨s2, hd, hrest⟩⟩
  · rw [e]; exact (Keeps.refl h).p
  · rw [e]; exact (Keeps.of_same h (same_dataCopy s s1 _ _ _ hc)).p
  · have h2 := (same_dataCopy s s1 _ _ _ hc).trans (same_dataWrite s1 s2 _ _ hd)
    have k2 := Keeps.of_same h h2
    refine k2.bind ?_
    have hi2 := k2.li
    obtain ⟨c2, hc2, hext⟩ := same_slot s s2 h2 idx sl hs
    have hv2 : (vs s2)[idx]? = some (some (extOf sl)) := hext ▸ slot_vs hc2
    have hres2 : (ns, nr) ∈ s2.reserved := by rw [h2.2.2.1]; exact hres
    rcases hrest with ⟨hg, _⟩ | ⟨_, q, hq, ⟨hga, _⟩ | ⟨_, ⟨_, e, eo⟩ | ⟨_, eo, e⟩⟩⟩
    · exact absurd (regions_get s2 hi2 idx _ _ hv2) hg
    · exact absurd (reserved_get hi2 hres2) hga
    · -- the reservation is too large: the region has left its extent and not yet taken the new one
      rw [e, eo, hq]
      refine ⟨fun hi => ?_, Or.inl trivial⟩
      obtain ⟨a1, a2, a3, a4⟩ := (inf_parts s2 _).mp hi.2
      have hold := a1 _ (extOf_mem_exts hc2)
      rw [hext] at hold
      exact ⟨hi.1, (inf_parts _ _).mpr ⟨a1, all_alErase _ _ a2, a3, all_sortedInsert _ _ _ a4 hold⟩⟩
    · have hnew : extOf (metaSetLen (metaSetReserved (metaSetStart (markDirty sl 0 nl) ns) nr) nl) = (ns, nr) := by
        rw [extOf_metaSetLen, extOf_metaSetReserved]
        exact congrArg (·, nr) (congrArg Prod.fst (extOf_metaSetStart (markDirty sl 0 nl) ns))
      rw [e, eo]
      refine (Keeps.of_quiet hi2 ((Mv.moved idx _ (ns, nr) hv2 hres2).to ?_)
        (by rw [writeIfDirty_eq, hq]; exact sz_of_eq rfl rfl)).p
      rw [lay_writeIfDirty, hnew, hq]
      rfl

theorem writeWith_keeps (s : Db) (h : LInv s) (idx : Nat) (d : List UInt8) (at_ : Option Nat) (tr : Bool) :
    KeepsP s (s.writeWith idx d at_ tr) := by
  refine writeWith_cases (P := KeepsP s) s idx d at_ tr (fun o => (Keeps.refl h).p) ?_ ?_
  · intro sl hs _ _
    exact (Keeps.of_same h (same_writeFits s idx sl d _ _ hs)).p
  · intro sl nr hs _ hnl _ hg
    have hge := growReserved_ge 64 _ _ _ hg
    have hneed := growReserved_need 64 _ _ _ hg
    have hn : Al s → nr % Gen.PAGE_SIZE = 0 := fun ha => growReserved_aligned 64 _ _ _ hg (alE_slot s ha idx sl hs).2
    refine ⟨fun hl => ?_, fun _ hc => ?_, fun _ _ p ns hp => ?_⟩
    · exact (writeExtendLast_keeps h hs hl (by omega) hn (pair_of_snd rfl)).p
    · exact writeExpand_keeps h hs (by omega) hc hn (pair_of_snd rfl)
    · obtain ⟨p1, p2, p3⟩ := placeRelocation_keeps s p h nr ns (by omega) hn hp
      exact p1.bind (writeRelocate_keeps p1.li ((slot?_congr p3 idx).trans hs) p2 (pair_of_snd rfl))

theorem layoutLen_setMinLen (s : Db) (n : Nat) : (s.setMinLen n).layoutLen = s.layoutLen := by
  rcases setMinLen_eq s n with ⟨_, e⟩ | ⟨k, _, _, e⟩
  · rw [e]
  · rw [e]; rfl

/-- with no hole for a page, the pre-check has grown the file by one -/
theorem createPre_room (s : Db) (hi : InF (createPre s)) (hb : bestFit (createPre s).holes Gen.PAGE_SIZE = none) :
    (createPre s).layoutLen + Gen.PAGE_SIZE ≤ (createPre s).mem.size := by
  revert hi hb
  refine createPre_cases (P := fun t => InF t → bestFit t.holes Gen.PAGE_SIZE = none → t.layoutLen + Gen.PAGE_SIZE ≤ t.mem.size) s
    (fun hne _ hb => absurd hb hne) (fun _ hi _ => ?_)
  rw [← hi.1, layoutLen_setMinLen]
  exact le_fileLen_setMinLen s _

/-- `s0` is the state before the piece is cut from its source, `s1` the state after: only the holes differ (`hl1`) -/
theorem createAt_keeps (s0 s1 : Db) (id : RegionId) (start : Nat) (h0 : LInv s0)
    (hsrc : Src (lay s0) start Gen.PAGE_SIZE s1.holes) (hl1 : lay s1 = { lay s0 with holes := s1.holes }) (hms : Sz s0 s1)
    (hal : Al s0 → start % Gen.PAGE_SIZE = 0) (hin : InF s0 → InF s1 ∧ start + Gen.PAGE_SIZE ≤ s1.mem.size) :
    KeepsP s0 (createAt s1 id start) := by
  refine createAt_cases (P := KeepsP s0) s1 id start (fun _ => ⟨fun hi => (hin hi).1, Or.inl trivial⟩) (fun _ => ?_)
  obtain ⟨hfree, hle⟩ := freeIdx_free s1
  obtain ⟨r1, _, _, r4, r5, r6, r7, r8⟩ := added_rest s1 (freeIdx s1) start id
  have hvs : vs s1 = vs s0 := congrArg Lay.slots hl1
  have hsl : vs (added s1 (freeIdx s1) start id) = if freeIdx s1 < s1.slots.length
      then (vs s1).set (freeIdx s1) (some (start, Gen.PAGE_SIZE)) else vs s1 ++ [some (start, Gen.PAGE_SIZE)] := by
    unfold vs
    rw [added_slots]
    split
    · rw [List.map_set]; rfl
    · rw [List.map_append]; rfl
  have hlay : lay (added s1 (freeIdx s1) start id) =
      ⟨if freeIdx s1 < s1.slots.length then (lay s0).slots.set (freeIdx s1) (some (start, Gen.PAGE_SIZE))
        else (lay s0).slots ++ [some (start, Gen.PAGE_SIZE)],
        (lay s0).reg ++ [(start, freeIdx s1)], (lay s0).res, s1.holes, (lay s0).pend⟩ := by
    have e2 := hl1
    simp only [lay, Lay.mk.injEq] at e2 ⊢
    obtain ⟨_, e22, e23, _, e25⟩ := e2
    rw [hsl, hvs, r1, r6, r7, r8, e22, e23, e25]
    exact ⟨rfl, rfl, rfl, rfl, rfl⟩
  have hsz : Sz s0 (added s1 (freeIdx s1) start id) := hms.trans (sz_of_eq r4 (congrArg Mem.size r5))
  refine Keeps.p (Keeps.of_alloc h0 (Mv.to ?_ hlay) hsz (fun ha => ⟨hal ha, Nat.mod_self _⟩)
    (fun hi => by rw [congrArg Mem.size r5]; exact (hin hi).2))
  by_cases hlt : freeIdx s1 < s1.slots.length
  · rw [if_pos hlt]
    refine Mv.alloc (by decide) hsrc (Dst.fill _ ?_)
    show (vs s0)[freeIdx s1]? = some none
    rw [← hvs]
    unfold vs
    rw [List.getElem?_map, getElem?_of_slot?_none hfree hlt]
    rfl
  · rw [if_neg hlt]
    have hlen : (lay s0).slots.length = freeIdx s1 := by
      show (vs s0).length = _
      rw [← hvs]
      unfold vs
      rw [List.length_map]
      omega
    rw [← hlen]
    exact Mv.alloc (by decide) hsrc Dst.push

theorem create_keeps (s : Db) (id : RegionId) (h : LInv s) : KeepsP s (s.create id) := by
  have k0 : Keeps s (createPre s) :=
    createPre_cases (P := Keeps s) s (fun _ => Keeps.refl h) (fun _ => Keeps.of_same h (same_setMinLen _ _))
  have h0 := k0.li
  refine create_cases (P := KeepsP s) s id (fun _ _ => (Keeps.refl h).p) (fun _ _ _ _ _ => k0.p)
    (fun hstart hs _ hb hrc => k0.bind ?_) (fun _ hb => k0.bind ?_)
  · obtain ⟨size, hg, hsz⟩ := bestFit_hole _ h0 Gen.PAGE_SIZE hstart hb
    have hm := mem_of_alGet _ hstart size hg
    refine createAt_keeps (createPre s) { createPre s with holes := hs } id hstart h0 (Src.hole size hs hg hrc) rfl
      (sz_of_eq rfl rfl) (fun ha => (alE_hole _ ha _ hm).1) (fun hi0 => ?_)
    have hfit : hstart + Gen.PAGE_SIZE ≤ (createPre s).mem.size := by
      have := inE_hole _ hi0 _ hm
      simp only at this
      omega
    exact ⟨inf_take _ hs _ _ hi0 hrc hfit, hfit⟩
  · exact createAt_keeps (createPre s) (createPre s) id _ h0 (Src.top_of (top_layoutLen h0)) rfl
      (Sz.refl _) (fun ha => layoutLen_aligned _ h0 ha) (fun hi0 => ⟨hi0, createPre_room s hi0 hb⟩)

theorem step_keeps (s : Db) (op : Op) (h : LInv s) (hop : ∀ n, op ≠ .reopen n) : KeepsP s (step s op) := by
  have hwr : ∀ (id : RegionId) (f : Nat → Db × Out), (∀ i, KeepsP s (f i)) → KeepsP s (s.withRegion id f) :=
    fun id f hf => withRegion_cases (P := KeepsP s) s id f (fun _ => (Keeps.refl h).p) (fun i _ => hf i)
  cases op with
  | create id => exact create_keeps s id h
  | write id d => exact hwr id _ fun i => writeWith_keeps s h i d none false
  | writeAt id a d => exact hwr id _ fun i => writeWith_keeps s h i d (some a) false
  | truncate id n => exact hwr id _ fun i => (Keeps.of_same h (same_truncate s i n)).p
  | truncateWrite id a d => exact hwr id _ fun i => writeWith_keeps s h i d (some a) true
  | rename id n => exact hwr id _ fun i => (Keeps.of_same h (same_rename s i n)).p
  | remove id => exact (removeId_keeps s id false h).p
  | removeHeld id => exact (removeId_keeps s id true h).p
  | retain ids => exact (retain_keeps s ids h).p
  | flush => exact (flush_keeps s h).p
  | regionFlush id => exact hwr id _ fun i => (Keeps.of_same h (same_regionFlush s i)).p
  | compact => exact (compact_keeps s h).p
  | reopen n => exact absurd rfl (hop n)
  | setMinLen n => exact (Keeps.of_same h (same_setMinLen s n)).p
  | setMinRegions n => exact (Keeps.of_same h (same_setMinRegions s n)).p

theorem linv_remove (s : Db) (idx : Nat) (extra : Bool) (h : LInv s) : LInv (s.remove idx extra).1 := (remove_keeps s idx extra h).li
theorem linv_removeId (s : Db) (id : RegionId) (extra : Bool) (h : LInv s) : LInv (s.removeId id extra).1 :=
  (removeId_keeps s id extra h).li
theorem linv_retain (s : Db) (keep : List RegionId) (h : LInv s) : LInv (s.retain keep).1 := (retain_keeps s keep h).li
theorem linv_flush (s : Db) (h : LInv s) : LInv s.flush.1 := (flush_keeps s h).li
theorem linv_compact (s : Db) (h : LInv s) : LInv s.compact.1 := (compact_keeps s h).li

theorem acc_removeId (s : Db) (id : RegionId) (extra : Bool) (h : LInv s) (ha : Acc s) : Acc (s.removeId id extra).1 :=
  (removeId_keeps s id extra h).acc ha
theorem acc_retain (s : Db) (keep : List RegionId) (h : LInv s) (ha : Acc s) : Acc (s.retain keep).1 := (retain_keeps s keep h).acc ha
theorem acc_flush (s : Db) (h : LInv s) (ha : Acc s) : Acc s.flush.1 := (flush_keeps s h).acc ha
theorem acc_compact (s : Db) (h : LInv s) (ha : Acc s) : Acc s.compact.1 := (compact_keeps s h).acc ha

theorem inf_removeId (s : Db) (id : RegionId) (extra : Bool) (h : LInv s) (hi : InF s) : InF (s.removeId id extra).1 :=
  (removeId_keeps s id extra h).inf hi
theorem inf_retain (s : Db) (keep : List RegionId) (h : LInv s) (hi : InF s) : InF (s.retain keep).1 := (retain_keeps s keep h).inf hi
theorem inf_flush (s : Db) (h : LInv s) (hi : InF s) : InF s.flush.1 := (flush_keeps s h).inf hi
theorem inf_compact (s : Db) (h : LInv s) (hi : InF s) : InF s.compact.1 := (compact_keeps s h).inf hi

theorem linv_placeRelocation (s s' : Db) (h : LInv s) (nr ns : Nat) (hnr : 0 < nr)
    (hp : s.placeRelocation nr = .ok (s', ns)) :
    LInv s' ∧ (ns, nr) ∈ s'.reserved ∧ vs s' = vs s ∧ s'.regions = s.regions := by
  obtain ⟨m, _, _, _, p2, p3, p4⟩ := placeRelocation_mv s s' h nr ns hnr hp
  exact ⟨(m.linv h).1, p2, by unfold vs; rw [p3], p4⟩

theorem linv_writeWith (s : Db) (h : LInv s) (idx : Nat) (d : List UInt8) (at_ : Option Nat) (tr : Bool) :
    IsPanic (s.writeWith idx d at_ tr).2 ∨ LInv (s.writeWith idx d at_ tr).1 :=
  (writeWith_keeps s h idx d at_ tr).2.imp id Keeps.li

theorem acc_writeWith (s : Db) (h : LInv s) (ha : Acc s) (idx : Nat) (d : List UInt8) (at_ : Option Nat) (tr : Bool) :
    IsPanic (s.writeWith idx d at_ tr).2 ∨ Acc (s.writeWith idx d at_ tr).1 :=
  (writeWith_keeps s h idx d at_ tr).2.imp id (·.acc ha)

theorem inf_writeWith (s : Db) (h : LInv s) (hi : InF s) (idx : Nat) (d : List UInt8) (at_ : Option Nat) (tr : Bool) :
    InF (s.writeWith idx d at_ tr).1 := (writeWith_keeps s h idx d at_ tr).1 hi

theorem al_step (s : Db) (op : Op) (h : LInv s) (ha : Al s) (hop : ∀ n, op ≠ .reopen n) :
    IsPanic (step s op).2 ∨ Al (step s op).1 := (step_keeps s op h hop).2.imp id (·.al ha)

theorem linv_create (s : Db) (id : RegionId) (h : LInv s) : IsPanic (s.create id).2 ∨ LInv (s.create id).1 :=
  (create_keeps s id h).2.imp (fun h => h) Keeps.li

theorem acc_create (s : Db) (id : RegionId) (h : LInv s) (ha : Acc s) : IsPanic (s.create id).2 ∨ Acc (s.create id).1 :=
  (create_keeps s id h).2.imp (fun h => h) (·.acc ha)

/-- **every request keeps every extent inside the data file** (and the cached file length equal to
    the size of the mapping) -/
theorem inf_step (s : Db) (op : Op) (h : LInv s) (hi : InF s) (hop : ∀ n, op ≠ .reopen n) : InF (step s op).1 :=
  (step_keeps s op h hop).1 hi

theorem linv_init : LInv Db.init := by
  refine ⟨fun x => by simp [claimedDb, exts, Db.init, cnt], fun e he => by simp [claimedDb, exts, Db.init] at he, ?_, ?_⟩
  · intro i st r hi; simp [vs, Db.init] at hi
  · intro st i hm; simp [Db.init] at hm

/-- no operation of the history ends in a panic (after a panic the process is gone) -/
def NoPanic (s : Db) : List Op → Prop
  | [] => True
  | op :: t => ¬IsPanic (step s op).2 ∧ NoPanic (step s op).1 t

def NoReopen (ops : List Op) : Prop := ∀ op ∈ ops, ∀ n, op ≠ .reopen n

theorem run_invariant {I : Db → Prop}
    (hstep : ∀ s op, I s → (∀ n, op ≠ .reopen n) → IsPanic (step s op).2 ∨ I (step s op).1)
    (s : Db) (ops : List Op) (h : I s) (hr : NoReopen ops) (hp : NoPanic s ops) : I (run s ops) := by
  induction ops generalizing s with
  | nil => exact h
  | cons op t ih =>
    exact ih _ ((hstep s op h (hr op (List.mem_cons_self ..))).resolve_left hp.1)
      (fun o ho => hr o (List.mem_cons_of_mem _ ho)) hp.2

end AnyDB.C02r
