/-!
The thread model of C11 — `Mode`, `Act`, `T`, `Sys`, the discipline `OK`, `enabled`, `unfinished`, `WF` — for
writer-preferring RW locks.  Definitions only (`Model/LockOrder.lean` and with it the protocol driver import this file); the
theorem, `Locks.progress`, is in `Props/C11.lean`.
-/
namespace AnyDB.Locks

inductive Mode | R | W
deriving DecidableEq, Repr

inductive Act
  | acq (l : Nat) (m : Mode)
  | rel (l : Nat)
deriving DecidableEq, Repr

structure T where
  held : List (Nat × Mode)
  prog : List Act
deriving Repr

def T.holds (t : T) (l : Nat) : Prop := ∃ m, (l, m) ∈ t.held
def T.holdsW (t : T) (l : Nat) : Prop := (l, Mode.W) ∈ t.held

/-- discipline: every acquisition is above everything currently held; releases are of held locks;
    a finished thread holds nothing -/
def OK : List (Nat × Mode) → List Act → Prop
  | held, [] => held = []
  | held, Act.acq l m :: rest => (∀ h ∈ held, h.1 < l) ∧ OK ((l, m) :: held) rest
  | held, Act.rel l :: rest => (∃ m, (l, m) ∈ held) ∧ OK (held.filter (·.1 != l)) rest

abbrev Sys := List T

/-- thread `i`'s next action is enabled in `s` (writer-preferring: a reader also waits for any
    other thread that is about to take the same lock for writing) -/
def enabled (s : Sys) (i : Nat) : Prop :=
  match s[i]? with
  | none => False
  | some t =>
    match t.prog with
    | [] => False
    | Act.rel _ :: _ => True
    | Act.acq l Mode.W :: _ => ∀ (j : Nat) (u : T), s[j]? = some u → ¬ u.holds l
    | Act.acq l Mode.R :: _ =>
        (∀ (j : Nat) (u : T), s[j]? = some u → ¬ u.holdsW l) ∧
        (∀ (j : Nat) (u : T), j ≠ i → s[j]? = some u → ∀ rest, u.prog ≠ Act.acq l Mode.W :: rest)

def unfinished (s : Sys) (i : Nat) : Prop := ∃ t : T, s[i]? = some t ∧ t.prog ≠ []

def WF (s : Sys) : Prop := ∀ (i : Nat) (t : T), s[i]? = some t → OK t.held t.prog

end AnyDB.Locks
