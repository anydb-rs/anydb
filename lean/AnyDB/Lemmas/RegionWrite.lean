import AnyDB.Lemmas.RegionView
/-!
The byte image of a successful `write_with`.  All four placement paths grow the file, copy a prefix of the region to its
(possibly new) start and write the data there (`shape_of_chain`); what that leaves (`Shape`) is what `rel_write_generic` asks
for to splice the same write into the reference's byte vector.
-/
namespace AnyDB.C01r
open Db C02r Mem

theorem refWrite_length (old : List UInt8) (at_ : Option Nat) (trunc : Bool) (d : List UInt8) (h : Db.outOfBounds at_ old.length = false) :
    (refWrite old at_ trunc d).length = Db.newLenOf at_ trunc old.length d.length := by
  unfold refWrite Db.newLenOf
  cases at_ with
  | none => cases trunc <;> simp
  | some a =>
    have ha : a ≤ old.length := getD_le_of_oob h
    cases trunc <;> simp <;> omega

theorem splice_get (old d tail : List UInt8) (wo i : Nat) (hwo : wo ≤ old.length) :
    (old.take wo ++ d ++ tail)[i]? =
      if i < wo then old[i]? else if i < wo + d.length then d[i - wo]? else tail[i - wo - d.length]? := by
  have hl : (old.take wo).length = wo := by rw [List.length_take]; exact Nat.min_eq_left hwo
  have hld : (old.take wo ++ d).length = wo + d.length := by rw [List.length_append, hl]
  by_cases h1 : i < wo
  · rw [if_pos h1, List.append_assoc, List.getElem?_append_left (by omega), List.getElem?_take, if_pos h1]
  · rw [if_neg h1]
    by_cases h2 : i < wo + d.length
    · rw [if_pos h2, List.append_assoc, List.getElem?_append_right (by omega), hl, List.getElem?_append_left (by omega)]
    · rw [if_neg h2, List.getElem?_append_right (by omega), hld, Nat.sub_sub]

theorem refWrite_get (old : List UInt8) (at_ : Option Nat) (trunc : Bool) (d : List UInt8) (h : Db.outOfBounds at_ old.length = false)
    (i : Nat) (hi : i < Db.newLenOf at_ trunc old.length d.length) :
    (refWrite old at_ trunc d)[i]? =
      if at_.getD old.length ≤ i ∧ i < at_.getD old.length + d.length then d[i - at_.getD old.length]? else old[i]? := by
  have hwo := getD_le_of_oob h
  unfold refWrite
  rw [splice_get _ _ _ _ _ hwo]
  by_cases h1 : i < at_.getD old.length
  · have : ¬(at_.getD old.length ≤ i ∧ i < at_.getD old.length + d.length) := by omega
    rw [if_pos h1, if_neg this]
  · rw [if_neg h1]
    by_cases h2 : i < at_.getD old.length + d.length
    · have : at_.getD old.length ≤ i ∧ i < at_.getD old.length + d.length := by omega
      rw [if_pos h2, if_pos this]
    · have : ¬(at_.getD old.length ≤ i ∧ i < at_.getD old.length + d.length) := by omega
      rw [if_neg h2, if_neg this]
      cases trunc with
      | true =>
        rw [newLenOf_trunc] at hi
        exact absurd hi h2
      | false =>
        simp only [Bool.false_eq_true, if_false, List.getElem?_drop]
        congr 1; omega

/-- the common conclusion of the four placement paths of `write_with` -/
theorem rel_write_generic (s s' : Db) (r : Ref) (idx : Nat) (sl new : Slot) (d : List UInt8) (at_ : Option Nat) (trunc : Bool)
    (hrel : Rel s r) (hinv : RInv s) (hlay' : LInv s') (hs : s.slot? idx = some sl)
    (hoob : Db.outOfBounds at_ sl.md.len = false)
    (hslots : s'.slots = s.slots.set idx (some new))
    (hid : new.md.id = sl.md.id) (hnl : new.md.len = Db.newLenOf at_ trunc sl.md.len d.length)
    (hres : new.md.len ≤ new.md.reserved) (hsz : new.md.start + new.md.len ≤ s'.mem.size)
    (hf : MemFrame s.mem s'.mem new.md.start new.md.reserved)
    (hnewW : ∀ i, at_.getD sl.md.len ≤ i → i < at_.getD sl.md.len + d.length → s'.mem.get? (new.md.start + i) = d[i - at_.getD sl.md.len]?)
    (hnewO : ∀ i, i < sl.md.len → i < new.md.len → ¬(at_.getD sl.md.len ≤ i ∧ i < at_.getD sl.md.len + d.length) →
      s'.mem.get? (new.md.start + i) = s.mem.get? (sl.md.start + i)) :
    ∃ e, r[idx]?.join = some e ∧ Rel s' (r.set idx (some (e.1, refWrite e.2 at_ trunc d))) ∧ RInv s' := by
  obtain ⟨e, he, e1, e2, e3⟩ := rel_get s r idx sl hrel hs
  have hidx := slot?_lt hs
  have hnewslot := slot?_set_self hslots hidx
  -- the window is the new extent; it is apart from the others because the layout invariant holds AFTER the step
  have hq := quietOff_of_set hslots hinv.bnd _ _ hf
    (fun j slj hj hsj => slots_apart s' hlay' j idx slj new hj hsj hnewslot)
  have hnb := (newLen_bounds at_ trunc sl.md.len d.length).2
  have hwo := getD_le_of_oob hoob
  refine ⟨e, he, hq.rel_set r _ hrel hinv hlay' (by rw [hslots, List.length_set]) hidx ?_ (fun X hX => ?_)⟩
  · unfold viewAt
    rw [hnewslot]
    simp only [Option.map_some, liftE, Option.some.injEq, Prod.mk.injEq]
    refine ⟨by rw [hid, e1], ?_⟩
    rw [← e2] at hoob hnl
    apply List.ext_getElem?
    intro i
    rw [read_getElem?, List.getElem?_map]
    by_cases hi : i < new.md.len
    · rw [if_pos hi]
      have hg := refWrite_get e.2 at_ trunc d hoob i (by rw [← hnl]; exact hi)
      have hlt : i < (refWrite e.2 at_ trunc d).length := by rw [refWrite_length _ _ _ _ hoob, ← hnl]; exact hi
      rw [e2] at hg
      have hstep : s'.mem.get? (new.md.start + i) = (refWrite e.2 at_ trunc d)[i]? := by
        rw [hg]
        by_cases hw : at_.getD sl.md.len ≤ i ∧ i < at_.getD sl.md.len + d.length
        · rw [if_pos hw]
          exact hnewW i hw.1 hw.2
        · have hil : i < sl.md.len := by rw [e2] at hnl; omega
          rw [if_neg hw, hnewO i hil hi hw]
          exact e3 i hil
      rw [hstep, List.getElem?_eq_getElem hlt]
      rfl
    · rw [if_neg hi]
      have : (refWrite e.2 at_ trunc d).length ≤ i := by rw [refWrite_length _ _ _ _ hoob, ← hnl]; omega
      rw [List.getElem?_eq_none this]; rfl
  · rw [hnewslot] at hX; cases hX
    exact ⟨hres, fun _ => hsz⟩

/-- what a successful `write_with` leaves behind, in the terms `rel_write_generic` asks for -/
def Shape (s s' : Db) (idx : Nat) (sl : Slot) (d : List UInt8) (at_ : Option Nat) (tr : Bool) : Prop :=
  ∃ new : Slot, s'.slots = s.slots.set idx (some new) ∧ new.md.id = sl.md.id ∧
    new.md.len = Db.newLenOf at_ tr sl.md.len d.length ∧ new.md.len ≤ new.md.reserved ∧
    new.md.start + new.md.len ≤ s'.mem.size ∧ MemFrame s.mem s'.mem new.md.start new.md.reserved ∧
    (∀ i, at_.getD sl.md.len ≤ i → i < at_.getD sl.md.len + d.length → s'.mem.get? (new.md.start + i) = d[i - at_.getD sl.md.len]?) ∧
    (∀ i, i < sl.md.len → i < new.md.len → ¬(at_.getD sl.md.len ≤ i ∧ i < at_.getD sl.md.len + d.length) →
      s'.mem.get? (new.md.start + i) = s.mem.get? (sl.md.start + i))

/-- `m'` is `m` with the `n` bytes at `src` copied to `dst` -/
def Copied (m m' : Mem) (src dst n : Nat) : Prop :=
  m'.size = m.size ∧ (∀ i, i < n → m'.get? (dst + i) = m.get? (src + i)) ∧ ∀ x, ¬(dst ≤ x ∧ x < dst + n) → m'.get? x = m.get? x

theorem Copied.refl (m : Mem) (src n : Nat) : Copied m m src src n := ⟨rfl, fun _ _ => rfl, fun _ _ => rfl⟩

theorem dataCopy_copied (p s1 : Db) (src dst len : Nat) (h : p.dataCopy src dst len = .ok s1) :
    s1.slots = p.slots ∧ Copied p.mem s1.mem src dst len ∧ (len = 0 ∨ dst + len ≤ p.mem.size) := by
  rcases Db.dataCopy_ok h with ⟨h0, rfl⟩ | ⟨_, hin, hw⟩
  · exact ⟨rfl, ⟨rfl, fun i hi => by omega, fun _ _ => rfl⟩, Or.inl h0⟩
  · obtain ⟨m, hm, rfl⟩ := Db.dataWrite_eq_some hw
    have hsl := length_slice p.mem src len hin
    have hb := writeAt_bound hm
    rw [hsl] at hb
    refine ⟨rfl, ⟨size_writeAt hm, fun i hi => ?_, fun x hx => ?_⟩, Or.inr hb⟩
    · rw [get?_writeAt hm, hsl, if_pos (by omega), Nat.add_sub_cancel_left]
      exact slice_getElem? p.mem src len i hi hin
    · rw [get?_writeAt hm, hsl, if_neg hx]

/-- The memory along the chain: `m1` is `m` grown, `m2` is `m1` with the `cl` bytes at `src` copied to `ns`, `m'` is `m2` with `d`
written at `ns + wo`.  `hcl3`: what the new length `nl` covers is written or copied; `hcb`: the copy, if there is one, lands inside
the grown file; `hsrc`: it is taken from inside the old one. -/
theorem mem_of_chain {m m1 m2 m' : Mem} {src ns nr wo nl cl : Nat} {d : List UInt8}
    (hg : MemFrame m m1 0 0) (hc : Copied m1 m2 src ns cl) (hw : m2.writeAt (ns + wo) d = some m')
    (hcl : cl ≤ nr) (hnr : nl ≤ nr) (hnb : wo + d.length ≤ nl) (hcl3 : nl ≤ max (wo + d.length) cl)
    (hcb : cl = 0 ∨ ns + cl ≤ m1.size) (hsrc : ∀ i, i < cl → src + i < m.size) :
    ns + nl ≤ m'.size ∧ MemFrame m m' ns nr ∧
    (∀ i, wo ≤ i → i < wo + d.length → m'.get? (ns + i) = d[i - wo]?) ∧
    (∀ i, i < cl → ¬(wo ≤ i ∧ i < wo + d.length) → m'.get? (ns + i) = m.get? (src + i)) := by
  have hwb := writeAt_bound hw
  have hsz := size_writeAt hw
  obtain ⟨c1, c2, c3⟩ := hc
  have hg1 := hg.1
  have get := fun x => get?_writeAt hw x
  have hend : ns + nl ≤ m'.size := by omega
  refine ⟨hend, ⟨by omega, fun x hx hn => ?_⟩, fun i h1 h2 => ?_, fun i h1 h3 => ?_⟩
  · rw [get, if_neg (by omega), c3 x (by omega), hg.grown x hx]
  · rw [get, if_pos ⟨by omega, by omega⟩, Nat.add_sub_add_left]
  · rw [get, if_neg (by omega), c2 i h1, hg.grown _ (hsrc i h1)]

/-- all four paths: the file is grown (`m1`), the first `cl` bytes of the region are copied to the new start (`m2`; to
itself when the region stays), then the data is written -/
theorem shape_of_chain (s t : Db) (idx : Nat) (sl X : Slot) (d : List UInt8) (at_ : Option Nat) (tr : Bool) (m1 m2 : Mem) (ns nr : Nat)
    (hoob : Db.outOfBounds at_ sl.md.len = false) (hb : 0 < sl.md.len → sl.md.start + sl.md.len ≤ s.mem.size)
    (hslots : t.slots = s.slots.set idx (some X))
    (hX : X.md = ⟨ns, Db.newLenOf at_ tr sl.md.len d.length, nr, sl.md.id⟩)
    (hnr : Db.newLenOf at_ tr sl.md.len d.length ≤ nr) (hlr : sl.md.len ≤ nr)
    (hg : MemFrame s.mem m1 0 0)
    (hc : Copied m1 m2 sl.md.start ns (if tr then at_.getD sl.md.len else sl.md.len))
    (hcb : (if tr then at_.getD sl.md.len else sl.md.len) = 0 ∨ ns + (if tr then at_.getD sl.md.len else sl.md.len) ≤ m1.size)
    (hw : m2.writeAt (ns + at_.getD sl.md.len) d = some t.mem) :
    Shape s t idx sl d at_ tr := by
  obtain ⟨hcl1, hcl3, hcl2⟩ := copyLen_spec at_ tr sl.md.len d.length (getD_le_of_oob hoob)
  obtain ⟨q1, q2, q3, q4⟩ := mem_of_chain hg hc hw (Nat.le_trans hcl1 hlr) hnr (newLen_bounds at_ tr sl.md.len d.length).1 hcl3 hcb
    (fun i hi => by have := hb (by omega); omega)
  exact ⟨X, hslots, by rw [hX], by rw [hX], by rw [hX]; exact hnr, by rw [hX]; exact q1, by rw [hX]; exact q2, by rw [hX]; exact q3,
    fun i h1 h2 h3 => by rw [hX] at h2 ⊢; exact q4 i (hcl2 i h1 h2 h3) h3⟩

theorem writeTail_ok {s2 t : Db} {idx : Nat} {sl' : Slot} {off : Nat} {d : List UInt8} {wo nl : Nat}
    (h : Db.WriteTail s2 idx sl' off d wo nl t .ok) :
    t.slots = s2.slots.set idx (some (Db.stored (Db.metaSetLen (Db.markDirty sl' wo d.length) nl))) ∧
      s2.mem.writeAt off d = some t.mem := by
  rcases h with ⟨_, _, e⟩ | ⟨s3, hw, e, _⟩
  · cases e
  · obtain ⟨m, hm, rfl⟩ := Db.dataWrite_eq_some hw
    rw [e, Db.finishWrite_eq, Db.writeIfDirty_eq]
    exact ⟨rfl, hm⟩

theorem shape_writeWith (s t : Db) (idx : Nat) (sl : Slot) (d : List UInt8) (at_ : Option Nat) (tr : Bool)
    (hs : s.slot? idx = some sl) (hb : sl.md.len ≤ sl.md.reserved ∧ (0 < sl.md.len → sl.md.start + sl.md.len ≤ s.mem.size))
    (h : s.writeWith idx d at_ tr = (t, .ok)) :
    Db.outOfBounds at_ sl.md.len = false ∧ Shape s t idx sl d at_ tr := by
  rcases Db.spec_some hs (Db.writeWith_spec h) with ⟨_, _, e⟩ | ⟨hoob, hp⟩
  · cases e
  refine ⟨hoob, ?_⟩
  have hcb0 : ∀ m1 : Mem, s.mem.size ≤ m1.size →
      (if tr then at_.getD sl.md.len else sl.md.len) = 0 ∨ sl.md.start + (if tr then at_.getD sl.md.len else sl.md.len) ≤ m1.size := by
    intro m1 h1
    have := (copyLen_spec at_ tr sl.md.len d.length (getD_le_of_oob hoob)).1
    omega
  -- the three paths that leave the region where it is
  have inPlace : ∀ (X : Slot) (nr : Nat) (m1 : Mem), X.md = { sl.md with len := Db.newLenOf at_ tr sl.md.len d.length, reserved := nr } →
      t.slots = s.slots.set idx (some X) → Db.newLenOf at_ tr sl.md.len d.length ≤ nr → sl.md.reserved ≤ nr → MemFrame s.mem m1 0 0 →
      m1.writeAt (sl.md.start + at_.getD sl.md.len) d = some t.mem → Shape s t idx sl d at_ tr :=
    fun X nr m1 hX hsl h1 h2 hg hw =>
      shape_of_chain s t idx sl X d at_ tr m1 m1 sl.md.start nr hoob hb.2 hsl hX h1 (by omega) hg (Copied.refl _ _ _) (hcb0 m1 hg.1) hw
  rcases hp with ⟨hfit, hf⟩ | ⟨hnf, hgr⟩
  · obtain ⟨m, X, R, L, hm, hX, rfl⟩ := Db.writeFits_ok hf
    exact inPlace X sl.md.reserved s.mem hX rfl hfit (Nat.le_refl _) (MemFrame.refl _ _ _) hm
  · rcases Db.writeGrow_spec hgr with ⟨_, _, e⟩ | ⟨_, _, _, e⟩ | ⟨nr, h0, hg, hpath⟩
    · cases e
    · cases e
    have hge := growReserved_ge 64 _ _ _ hg
    have hneed := growReserved_need 64 _ _ _ hg
    have hXmd : (Db.stored (Db.metaSetLen (Db.markDirty (Db.metaSetReserved sl nr) (at_.getD sl.md.len) d.length)
        (Db.newLenOf at_ tr sl.md.len d.length))).md = { sl.md with len := Db.newLenOf at_ tr sl.md.len d.length, reserved := nr } := by
      rw [Db.stored_md, Db.metaSetLen_md, Db.markDirty_md, Db.metaSetReserved_md]
    rcases hpath with ⟨_, hx⟩ | ⟨_, _, hx⟩ | ⟨_, _, ⟨e, _, _, e2⟩ | ⟨p, ns, hpl, hx⟩⟩
    · rcases Db.writeExtendLast_spec hx with ⟨_, _, e⟩ | ⟨_, ht⟩
      · cases e
      obtain ⟨t1, t2⟩ := writeTail_ok ht
      exact inPlace _ nr _ hXmd (by rw [t1, (Db.setMinLen_rest _ _).1]; exact List.set_set ..) hneed hge
        (memFrame_setMinLen (s.setSlot idx (some (Db.metaSetReserved sl nr))) _) t2
    · rcases Db.writeExpand_spec hx with ⟨_, _, _, e⟩ | ⟨hs', _, ⟨_, _, e⟩ | ⟨_, ht⟩⟩
      · cases e
      · cases e
      obtain ⟨t1, t2⟩ := writeTail_ok ht
      exact inPlace _ nr _ hXmd (by rw [t1]; exact List.set_set ..) hneed hge (MemFrame.refl _ _ _) t2
    · cases e2
    · rcases Db.writeRelocate_spec hx with ⟨_, hce, _, e⟩ | ⟨s1, hcp, ⟨_, _, e⟩ | ⟨s2, hw, ⟨_, _, e⟩ | ⟨_, q, hq, hfin⟩⟩⟩
      · rcases Db.dataCopy_spec hce with ⟨_, e3⟩ | ⟨_, _, e3⟩ | ⟨_, _, ⟨_, e3⟩ | ⟨_, ⟨_, e3⟩ | ⟨_, _, e3⟩⟩⟩ <;> cases e3 <;> cases e
      · cases e
      · cases e
      rcases hfin with ⟨_, _, e⟩ | ⟨_, ⟨_, _, e⟩ | ⟨_, _, et⟩⟩
      · cases e
      · cases e
      obtain ⟨c0, hcopy, c5⟩ := dataCopy_copied p s1 _ _ _ hcp
      obtain ⟨m, hm, rfl⟩ := Db.dataWrite_eq_some hw
      have hp := placeRelocation_frame hpl
      refine shape_of_chain s t idx sl
        (Db.stored (Db.metaSetLen (Db.metaSetReserved (Db.metaSetStart (Db.markDirty sl 0 (Db.newLenOf at_ tr sl.md.len d.length)) ns) nr)
          (Db.newLenOf at_ tr sl.md.len d.length)))
        d at_ tr p.mem s1.mem ns nr hoob hb.2 ?_ ?_ hneed (by omega) hp.2 hcopy c5 ?_
      · rw [et, Db.writeIfDirty_eq, hq, c0, hp.1]
      · rw [Db.stored_md, Db.metaSetLen_md, Db.metaSetReserved_md, Db.metaSetStart_md, Db.markDirty_md]
      · rw [et, Db.writeIfDirty_eq, hq]; exact hm

theorem rel_writeWith (s : Db) (r : Ref) (idx : Nat) (d : List UInt8) (at_ : Option Nat) (tr : Bool) (sl : Slot)
    (e : RegionId × List UInt8) (hrel : Rel s r) (hinv : RInv s) (hs : s.slot? idx = some sl) (he : r[idx]?.join = some e)
    (hok : (s.writeWith idx d at_ tr).2 = .ok) :
    Rel (s.writeWith idx d at_ tr).1 (r.set idx (some (e.1, refWrite e.2 at_ tr d))) ∧ RInv (s.writeWith idx d at_ tr).1 := by
  obtain ⟨hoob, new, h1, h2, h3, h4, h5, h6, h7, h8⟩ := shape_writeWith s _ idx sl d at_ tr hs (hinv.bnd idx sl hs) (pair_of_snd hok)
  have hlay : LInv (s.writeWith idx d at_ tr).1 := (linv_writeWith s hinv.lay idx d at_ tr).resolve_left (by rw [hok]; exact id)
  obtain ⟨e', he', hr⟩ := rel_write_generic s _ r idx sl new d at_ tr hrel hinv hlay hs hoob h1 h2 h3 h4 h5 h6 h7 h8
  cases he.symm.trans he'
  exact hr

end AnyDB.C01r
