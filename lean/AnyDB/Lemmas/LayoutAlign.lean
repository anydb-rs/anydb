import AnyDB.Lemmas.LayoutAcc
/-!
Page alignment of every extent (`Al`): kept by cutting and joining (`seg_al`) and by the doubling of a reservation, and
then `Layout::len()` is aligned too.
-/
namespace AnyDB.C02r
open Conc Db

def AlE (e : E) : Prop := e.1 % Gen.PAGE_SIZE = 0 ∧ e.2 % Gen.PAGE_SIZE = 0
def AlL (l : List E) : Prop := ∀ e ∈ l, AlE e
def Al (s : Db) : Prop := AlL (claimedDb s)

theorem seg_al : Seg AlE := by
  have dvd (n : Nat) : n % Gen.PAGE_SIZE = 0 ↔ Gen.PAGE_SIZE ∣ n := Nat.dvd_iff_mod_eq_zero.symm
  constructor
  · intro a sz b _ h1 h2
    exact ⟨(dvd _).mpr (Nat.dvd_add ((dvd _).mp h2.1) ((dvd _).mp h2.2)),
      (dvd _).mpr (Nat.dvd_sub ((dvd _).mp h1.2) ((dvd _).mp h2.2))⟩
  · intro a m k h1 h2
    exact ⟨h1.1, (dvd _).mpr (Nat.dvd_add ((dvd _).mp h1.2) ((dvd _).mp h2.2))⟩

theorem al_parts (s : Db) : Al s ↔ AlL (exts s.slots) ∧ AlL s.reserved ∧ AlL s.holes ∧ AlL s.pending :=
  all_claimed s AlE

theorem al_init : Al Db.init := by
  intro e he; simp [claimedDb, exts, Db.init] at he

theorem alE_slot (s : Db) (ha : Al s) (idx : Nat) (sl : Slot) (hs : s.slot? idx = some sl) : AlE (sl.md.start, sl.md.reserved) :=
  ha _ (extOf_mem_claimed s idx sl hs)

theorem alE_hole (s : Db) (ha : Al s) (e : E) (he : e ∈ s.holes) : AlE e := ((al_parts s).mp ha).2.2.1 e he

theorem growReserved_aligned (fuel cur need n : Nat) (h : growReserved fuel cur need = some n) (hc : cur % Gen.PAGE_SIZE = 0) :
    n % Gen.PAGE_SIZE = 0 :=
  (growReserved_ind (P := (· % Gen.PAGE_SIZE = 0)) fuel cur need n h hc
    (fun c hc => by rw [Nat.mul_mod, hc, Nat.zero_mul]; rfl)).1

theorem layoutLen_aligned (s : Db) (h : LInv s) (ha : Al s) : s.layoutLen % Gen.PAGE_SIZE = 0 := by
  rcases layoutLen_cases s h with h0 | ⟨e, he, hl⟩
  · rw [h0]; rfl
  · obtain ⟨h1, h2⟩ := ha e he
    rw [hl, Nat.add_mod, h1, h2]
    rfl

end AnyDB.C02r
