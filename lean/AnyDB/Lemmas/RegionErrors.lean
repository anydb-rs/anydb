import AnyDB.Lemmas.RegionView
/-!
What the placement paths of `write_with` can answer under the invariants (`LInv`, `InF`): the internal error
answers cannot occur — the best-fitting hole is large enough, the copy ranges are apart because the reservation and the region
are, the start map answers with the region itself, the reservation taken for a relocation is still there when it is claimed —
and every write, copy and relocation lands inside the mapping.  What is left of a growing path is success or the assertion on
the size of the reservation (`GrowOut`); of the doubling loop, `RegionSizeOverflow` (`writeGrow_out`).
-/
namespace AnyDB.C01r
open Db C02r Mem

theorem placeRelocation_ok (s : Db) (h : LInv s) (nr : Nat) : ∃ r, s.placeRelocation nr = .ok r := by
  rcases Db.placeRelocation_spec (rfl : s.placeRelocation nr = _) with ⟨_, ns, hbf, hrc, _⟩ | ⟨_, _, _, _, e⟩ | ⟨_, e⟩
  · -- the best-fitting hole is large enough
    obtain ⟨_, hrc'⟩ := bestFit_cuts s h nr ns hbf
    rw [hrc'] at hrc; cases hrc
  · exact ⟨_, e⟩
  · exact ⟨_, e⟩

theorem writeFits_out (s : Db) (idx : Nat) (sl : Slot) (d : List UInt8) (wo nl : Nat) (hi : InF s) (hs : s.slot? idx = some sl)
    (h1 : wo + d.length ≤ nl) (h2 : nl ≤ sl.md.reserved) : (s.writeFits idx sl d wo nl).2 = .ok := by
  have := inE_slot s hi idx sl hs
  generalize hr : s.writeFits idx sl d wo nl = r
  obtain ⟨t, o⟩ := r
  rcases writeFits_spec hr with ⟨hw, _, _⟩ | ⟨_, _, e, _⟩
  · exact absurd hw (dataWrite_fits s _ d (by omega))
  · exact e

theorem writeTail_out {s2 t : Db} {o : Out} {idx : Nat} {X : Slot} {off : Nat} {d : List UInt8} {wo nl : Nat}
    (hw : WriteTail s2 idx X off d wo nl t o) (hfit : off + d.length ≤ s2.mem.size) : o = .ok := by
  rcases hw with ⟨hw, _, _⟩ | ⟨_, _, _, e⟩
  · exact absurd hw (dataWrite_fits s2 off d hfit)
  · exact e

/-- what a growing path answers once the doubling loop has found the reservation `nr`: success, or the assertion on its size -/
def GrowOut (nr : Nat) (o : Out) : Prop := o = .ok ∨ (Gen.MAX_RESERVED_SIZE < nr ∧ o = .panic "set_reserved")

theorem writeExtendLast_out (s : Db) (idx : Nat) (sl : Slot) (d : List UInt8) (wo nl nr : Nat) (hi : InF s)
    (h1 : wo + d.length ≤ nl) (h2 : nl ≤ nr) : GrowOut nr (s.writeExtendLast idx sl d wo nl nr).2 := by
  generalize hr : s.writeExtendLast idx sl d wo nl nr = r
  obtain ⟨t, o⟩ := r
  rcases writeExtendLast_spec hr with ⟨hlt, _, e⟩ | ⟨_, hw⟩
  · exact Or.inr ⟨hlt, e⟩
  · obtain ⟨_, _, g3⟩ := setMinLen_inf (s.setSlot idx (some (metaSetReserved sl nr))) (sl.md.start + nr) hi.1
    exact Or.inl (writeTail_out hw (by omega))

theorem writeExpand_out (s : Db) (idx : Nat) (sl : Slot) (d : List UInt8) (wo nl nr : Nat) (hi : InF s)
    (hce : s.canExpand sl nr = true) (h1 : wo + d.length ≤ nl) (h2 : nl ≤ nr) :
    GrowOut nr (s.writeExpand idx sl d wo nl nr).2 := by
  -- `canExpand` has checked the hole behind the region; it ends inside the file
  obtain ⟨gap, hg, hgap⟩ := canExpand_true hce
  have hm := inE_hole s hi _ (mem_of_alGet s.holes _ gap hg)
  generalize hr' : s.writeExpand idx sl d wo nl nr = r
  obtain ⟨t, o⟩ := r
  rcases writeExpand_spec hr' with ⟨e, he, _, _⟩ | ⟨hs', _, ⟨hlt, _, e⟩ | ⟨_, hw⟩⟩
  · obtain ⟨_, hrc⟩ := removeOrCompress_ok_of_le s.holes _ _ gap hg hgap
    rw [hrc] at he; cases he
  · exact Or.inr ⟨hlt, e⟩
  · exact Or.inl (writeTail_out hw (by show _ ≤ s.mem.size; omega))

theorem writeRelocate_out (p : Db) (h : LInv p) (hi : InF p) (idx : Nat) (sl : Slot) (d : List UInt8) (wo nl nr cl ns : Nat)
    (hs : p.slot? idx = some sl) (hres : (ns, nr) ∈ p.reserved)
    (hcl : cl ≤ sl.md.len) (hlen : sl.md.len ≤ sl.md.reserved) (hr : sl.md.reserved ≤ nr)
    (h1 : wo + d.length ≤ nl) (h2 : nl ≤ nr) : GrowOut nr (p.writeRelocate idx sl d wo nl nr cl ns).2 := by
  have hnew : ns + nr ≤ p.mem.size := ((inf_parts p _).mp hi.2).2.1 _ hres
  have hold := inE_slot p hi idx sl hs
  generalize hr' : p.writeRelocate idx sl d wo nl nr cl ns = r
  obtain ⟨t, o⟩ := r
  rcases writeRelocate_spec hr' with ⟨o', hc, _, _⟩ | ⟨s1, hc, ⟨hw, _, _⟩ | ⟨s2, hw, hrest⟩⟩
  · -- the copy: the reservation and the region are apart, and both lie inside the file
    exfalso
    rcases dataCopy_spec hc with ⟨_, e⟩ | ⟨_, hov, _⟩ | ⟨_, _, ⟨hlt, _⟩ | ⟨hin, ⟨hw, _⟩ | ⟨_, _, e⟩⟩⟩
    · cases e
    · have hap := reserved_apart p h (ns, nr) hres idx sl hs
      omega
    · omega
    · exact absurd hw (dataWrite_fits p ns _ (by rw [length_slice p.mem _ _ hin]; omega))
    · cases e
  · exact absurd hw (dataWrite_fits s1 _ d (by have := (same_dataCopy p s1 _ _ _ hc).sz.2; omega))
  have h2s := (same_dataCopy p s1 _ _ _ hc).trans (same_dataWrite s1 s2 _ _ hw)
  rcases hrest with ⟨hne, _, _⟩ | ⟨_, q, _, ⟨hne, _, _⟩ | ⟨_, ⟨hlt, _, e⟩ | ⟨_, e, _⟩⟩⟩
  · -- the start map answers with the region itself
    rw [h2s.2.1] at hne
    exact absurd (region_of_slot h hs) hne
  · -- the reservation taken for the move is still there
    rw [h2s.2.2.1] at hne
    exact absurd (reserved_get h hres) hne
  · exact Or.inr ⟨hlt, e⟩
  · exact Or.inl e

theorem writeGrow_out (s : Db) (hinv : RInv s) (hi : InF s) (idx : Nat) (sl : Slot) (d : List UInt8) (wo nl cl : Nat)
    (hs : s.slot? idx = some sl) (hcl : cl ≤ sl.md.len) (h1 : wo + d.length ≤ nl) :
    ((s.writeGrow idx sl d wo nl cl).2 = .err .regionSizeOverflow ∧ growReserved 64 sl.md.reserved nl = none) ∨
    ∃ nr, growReserved 64 sl.md.reserved nl = some nr ∧ GrowOut nr (s.writeGrow idx sl d wo nl cl).2 := by
  have hb := hinv.bnd idx sl hs
  have hpos := slot_pos s hinv.lay idx sl hs
  generalize hr : s.writeGrow idx sl d wo nl cl = r
  obtain ⟨t, o⟩ := r
  rcases writeGrow_spec hr with ⟨h0, _⟩ | ⟨_, hg, _, e⟩ | ⟨nr, _, hg, hpath⟩
  · omega
  · exact Or.inl ⟨e, hg⟩
  refine Or.inr ⟨nr, hg, ?_⟩
  have hge := growReserved_ge 64 _ _ _ hg
  have hneed := growReserved_need 64 _ _ _ hg
  rcases hpath with ⟨_, hy⟩ | ⟨_, hce, hy⟩ | ⟨_, _, ⟨e, he, _, _⟩ | ⟨p, ns, hp, hy⟩⟩
  · rw [← congrArg Prod.snd hy]
    exact writeExtendLast_out s idx sl d wo nl nr hi h1 hneed
  · rw [← congrArg Prod.snd hy]
    exact writeExpand_out s idx sl d wo nl nr hi hce h1 hneed
  · obtain ⟨_, hok⟩ := placeRelocation_ok s hinv.lay nr
    rw [hok] at he; cases he
  · rw [← congrArg Prod.snd hy]
    obtain ⟨pk, p2, p3⟩ := placeRelocation_keeps s p hinv.lay nr ns (by omega)
      (fun ha => growReserved_aligned 64 _ _ _ hg (alE_slot s ha idx sl hs).2) hp
    exact writeRelocate_out p pk.li (pk.inf hi) idx sl d wo nl nr cl ns ((slot?_congr p3 idx).trans hs) p2 hcl hb.1 hge h1 hneed

end AnyDB.C01r
