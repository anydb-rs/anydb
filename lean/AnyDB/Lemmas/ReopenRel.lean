import AnyDB.Lemmas.RegionView
/-!
References that differ only by trailing free slots (`EqUpTo`): they have the same entry at every index (`EqUpTo.join`), a step of
the reference commutes with the padding (`refStep_pad`), and a state that shows slot by slot what another state shows, shows that
state's reference up to trailing free slots, whatever the lengths of the two slot tables (`rel_of_view`; used for `reopen`, after
which the slot table is as long as the metadata file: `rel_reopen`, `Lemmas/LayoutReopen.lean`).
-/
namespace AnyDB.C01r

def nones (k : Nat) : Ref := List.replicate k none

theorem nones_add (a b : Nat) : nones (a + b) = nones a ++ nones b := List.replicate_append_replicate.symm

/-- equal up to trailing free slots -/
def EqUpTo (r r' : Ref) : Prop := ∃ a b, r ++ nones a = r' ++ nones b

theorem EqUpTo.refl (r : Ref) : EqUpTo r r := ⟨0, 0, rfl⟩
theorem EqUpTo.trans {x y z : Ref} (h1 : EqUpTo x y) (h2 : EqUpTo y z) : EqUpTo x z := by
  obtain ⟨a, b, e1⟩ := h1
  obtain ⟨c, d, e2⟩ := h2
  refine ⟨a + c, d + b, ?_⟩
  calc x ++ nones (a + c) = (x ++ nones a) ++ nones c := by rw [nones_add, List.append_assoc]
    _ = (y ++ nones b) ++ nones c := by rw [e1]
    _ = (y ++ nones c) ++ nones b := by rw [List.append_assoc, List.append_assoc, ← nones_add, ← nones_add, Nat.add_comm]
    _ = (z ++ nones d) ++ nones b := by rw [e2]
    _ = z ++ nones (d + b) := by rw [List.append_assoc, nones_add]

theorem refFind_pad (r : Ref) (k : Nat) (id : RegionId) : refFind (r ++ nones k) id = refFind r id := by
  unfold refFind
  rw [List.findIdx?_append, (List.findIdx?_eq_none_iff (xs := nones k)).mpr]
  · simp
  · intro x hx
    rw [(List.mem_replicate.mp hx).2]

theorem refOn_pad (r : Ref) (k : Nat) (id : RegionId) (f) : refOn (r ++ nones k) id f = refOn r id f ++ nones k := by
  unfold refOn
  rw [refFind_pad]
  cases hf : refFind r id with
  | none => rfl
  | some i =>
    have hi := refFind_lt r id i hf
    simp only []
    rw [List.getElem?_append_left hi]
    cases hj : r[i]?.join with
    | none => rfl
    | some e => simp only []; rw [List.set_append_left _ _ hi]

theorem refStep_pad (r : Ref) (k : Nat) (op : Op) : ∃ k', refStep (r ++ nones k) op = refStep r op ++ nones k' := by
  cases op with
  | create id =>
    simp only [refStep, refFind_pad]
    cases hf : refFind r id with
    | some i => exact ⟨k, rfl⟩
    | none =>
      rw [List.findIdx?_append]
      cases hn : r.findIdx? (·.isNone) with
      | some i =>
        have hi : i < r.length := (List.findIdx?_eq_some_iff_getElem.mp hn).1
        refine ⟨k, ?_⟩
        simp only [Option.or]
        rw [List.set_append_left _ _ hi]
      | none =>
        simp only [Option.none_or]
        cases k with
        | zero => exact ⟨0, by simp [nones]⟩
        | succ j =>
          refine ⟨j, ?_⟩
          have : (nones (j + 1)).findIdx? (·.isNone) = some 0 := by simp [nones, List.replicate_succ, List.findIdx?_cons]
          rw [this]
          simp only [Option.map_some, Nat.zero_add]
          rw [List.set_append_right _ _ (Nat.le_refl _), Nat.sub_self]
          simp [nones, List.replicate_succ]
  | write id d => exact ⟨k, refOn_pad r k id _⟩
  | writeAt id a d => exact ⟨k, refOn_pad r k id _⟩
  | truncateWrite id a d => exact ⟨k, refOn_pad r k id _⟩
  | truncate id n => exact ⟨k, refOn_pad r k id _⟩
  | rename id n =>
    simp only [refStep, refFind_pad]
    split
    · exact ⟨k, rfl⟩
    · exact ⟨k, refOn_pad r k id _⟩
  | remove id => exact ⟨k, refOn_pad r k id _⟩
  | retain ids =>
    refine ⟨k, ?_⟩
    simp only [refStep, refRetain, List.map_append]
    congr 1
    simp [nones]
  | removeHeld id => exact ⟨k, rfl⟩
  | flush => exact ⟨k, rfl⟩
  | regionFlush id => exact ⟨k, rfl⟩
  | compact => exact ⟨k, rfl⟩
  | reopen n => exact ⟨k, rfl⟩
  | setMinLen n => exact ⟨k, rfl⟩
  | setMinRegions n => exact ⟨k, rfl⟩

theorem eqUpTo_step (r r' : Ref) (op : Op) (h : EqUpTo r r') : EqUpTo (refStep r op) (refStep r' op) := by
  obtain ⟨a, b, e⟩ := h
  obtain ⟨a', ea⟩ := refStep_pad r a op
  obtain ⟨b', eb⟩ := refStep_pad r' b op
  exact ⟨a', b', by rw [← ea, ← eb, e]⟩

theorem join_pad (r : Ref) (k i : Nat) : (r ++ nones k)[i]?.join = r[i]?.join := join_getElem?_append_none r k i

theorem ext_join (l1 l2 : Ref) (hl : l1.length = l2.length) (h : ∀ i : Nat, l1[i]?.join = l2[i]?.join) : l1 = l2 := by
  induction l1 generalizing l2 with
  | nil => exact (List.eq_nil_of_length_eq_zero hl.symm).symm
  | cons a t ih =>
    cases l2 with
    | nil => cases hl
    | cons b t2 =>
      have h0 : a = b := h 0
      rw [h0, ih t2 (Nat.succ.inj hl) (fun i => h (i + 1))]

/-- equal up to trailing free slots: the same entry at every index -/
theorem EqUpTo.join {r r' : Ref} (h : EqUpTo r r') (i : Nat) : r[i]?.join = r'[i]?.join := by
  obtain ⟨a, b, e⟩ := h
  rw [← join_pad r a, e, join_pad]

/-- a state that shows in every slot what `s` shows, shows the reference of `s`, up to trailing free slots (its slot table may be
longer or shorter than that of `s`: beyond either, nothing is shown) -/
theorem rel_of_view (s f : Db) (ρ : Ref) (hrel : Rel s ρ) (hview : ∀ idx, viewAt f idx = viewAt s idx) :
    ∃ ρ', Rel f ρ' ∧ EqUpTo ρ ρ' := by
  have hbeyond : ∀ i, f.slots.length ≤ i → ρ[i]?.join = none := by
    intro i hi
    have hv := (hview i).trans (hrel.2 i)
    cases hs : f.slot? i with
    | some sl => exact absurd (Db.slot?_lt hs) (Nat.not_lt.mpr hi)
    | none =>
      unfold viewAt at hv
      rw [hs] at hv
      exact Option.map_eq_none_iff.mp hv.symm
  have hget : ∀ i : Nat, ((List.range f.slots.length).map (fun i => ρ[i]?.join))[i]?.join = ρ[i]?.join := by
    intro i
    by_cases hi : i < f.slots.length
    · rw [List.getElem?_map, List.getElem?_range hi]; rfl
    · rw [List.getElem?_eq_none (by simp; omega), hbeyond i (by omega)]; rfl
  refine ⟨(List.range f.slots.length).map (fun i => ρ[i]?.join), ⟨by simp, fun idx => ?_⟩, ?_⟩
  · rw [hview idx, hrel.2 idx, hget idx]
  · refine ⟨f.slots.length - ρ.length, ρ.length - f.slots.length, ext_join _ _ (by simp [nones]; omega) (fun i => ?_)⟩
    rw [join_pad, join_pad, hget i]

end AnyDB.C01r
