import AnyDB.Lemmas.RegionView
/-!
The requests that move no byte of a live region.  `truncate` and `rename` change one slot's metadata (`rel_meta`), `remove` and
`retain` clear slots (`rel_drop`); flush, region flush, file growth and hole punching change no slot's metadata at all (`Quiet`)
and the database shows the same reference afterwards (`rel_quiet`).
-/
namespace AnyDB.C01r
open Db C02r Mem

theorem read_take (m : Mem) (o l n : Nat) (h : n ≤ l) : m.read o n = (m.read o l).take n := by
  apply List.ext_getElem?
  intro i
  rw [List.getElem?_take, read_getElem?, read_getElem?]
  by_cases h1 : i < n
  · rw [if_pos h1, if_pos h1, if_pos (by omega)]
  · rw [if_neg h1, if_neg h1]

theorem rel_meta (s s' : Db) (r : Ref) (idx : Nat) (sl X : Slot) (e : RegionId × List UInt8) (hrel : Rel s r) (hinv : RInv s)
    (hlay : LInv s') (hs : s.slot? idx = some sl) (he : r[idx]?.join = some e) (hslots : s'.slots = s.slots.set idx (some X))
    (hmem : s'.mem = s.mem) (h1 : X.md.start = sl.md.start) (h2 : X.md.reserved = sl.md.reserved) (h3 : X.md.len ≤ sl.md.len) :
    Rel s' (r.set idx (some (X.md.id, e.2.take X.md.len))) ∧ RInv s' := by
  have hidx := slot?_lt hs
  have hnewslot := slot?_set_self hslots hidx
  have hb := hinv.bnd idx sl hs
  refine (quietOff_of_set_mem hslots hinv.bnd hmem).rel_set r _ hrel hinv hlay (by rw [hslots, List.length_set]) hidx ?_
    (fun Y hY => ?_)
  · have hv := hrel.2 idx
    unfold viewAt at hv ⊢
    rw [hs, he] at hv
    rw [hnewslot, hmem]
    simp only [Option.map_some, liftE, Option.some.injEq, Prod.mk.injEq] at hv ⊢
    rw [h1, read_take _ _ _ _ h3, hv.2, List.map_take]
    exact ⟨trivial, rfl⟩
  · rw [hnewslot] at hY; cases hY
    rw [hmem]; omega

theorem set_self (r : Ref) (idx : Nat) (e : RegionId × List UInt8) (he : r[idx]?.join = some e) : r.set idx (some e) = r := by
  obtain ⟨hl, hr⟩ := List.getElem?_eq_some_iff.mp (Option.join_eq_some_iff.mp he)
  rw [← hr, List.set_getElem_self]

/-- `e` is what the reference holds for the slot (in `rel_step`, `rel_byName` hands it over) -/
theorem rel_truncate (s : Db) (r : Ref) (idx n : Nat) (sl : Slot) (e : RegionId × List UInt8) (hrel : Rel s r) (hinv : RInv s)
    (hs : s.slot? idx = some sl) (he : r[idx]?.join = some e) :
    Rel (s.truncate idx n).1 (r.set idx (if n > e.2.length then some e else some (e.1, e.2.take n))) ∧ RInv (s.truncate idx n).1 := by
  obtain ⟨e1, e2, _⟩ := rel_at s r idx sl e hrel hs he
  have hlay := (same_truncate s idx n).linv hinv.lay
  rcases Db.spec_some hs (Db.truncate_spec (pair_of_snd rfl : s.truncate idx n = _)) with ⟨heq, et, _⟩ | ⟨hgt, et, _⟩ | ⟨hlt, et, _⟩
  · rw [et, if_neg (by omega), List.take_of_length_le (by omega), set_self r idx e he]
    exact ⟨hrel, hinv⟩
  · rw [et, if_pos (by omega), set_self r idx e he]
    exact ⟨hrel, hinv⟩
  · rw [et] at hlay ⊢
    rw [if_neg (by omega)]
    have hx := Db.stored_md (metaSetLen sl n)
    rw [Db.metaSetLen_md] at hx
    have hr' := rel_meta s _ r idx sl _ e hrel hinv hlay hs he (by rw [Db.writeIfDirty_eq]) (by rw [Db.writeIfDirty_eq])
      (by rw [hx]) (by rw [hx]) (by rw [hx]; exact Nat.le_of_lt hlt)
    rw [hx] at hr'
    rw [e1]
    exact hr'

/-- the database refuses a name that is taken, the reference leaves itself alone then -/
theorem rel_rename (s : Db) (r : Ref) (idx : Nat) (nid : RegionId) (sl : Slot) (e : RegionId × List UInt8) (hrel : Rel s r)
    (hinv : RInv s) (hs : s.slot? idx = some sl) (he : r[idx]?.join = some e) (hn : Normal (s.rename idx nid).2) :
    Rel (s.rename idx nid).1 (if (s.findId nid).isSome then r else r.set idx (some (nid, e.2))) ∧ RInv (s.rename idx nid).1 := by
  have hlay0 := (same_rename s idx nid).linv hinv.lay
  rcases Db.spec_some hs (Db.rename_spec (pair_of_snd rfl : s.rename idx nid = _)) with ⟨j, hf, et, _⟩ | ⟨_, _, _, eo⟩ | ⟨hf, _, et, _⟩
  · rw [hf, Option.isSome_some, if_pos rfl, et]; exact ⟨hrel, hinv⟩
  · rw [eo] at hn; exact hn.elim
  · rw [hf, Option.isSome_none, if_neg Bool.false_ne_true]
    rw [et] at hlay0 ⊢
    have hx := Db.stored_md (metaSetId sl nid)
    rw [Db.metaSetId_md] at hx
    obtain ⟨_, e2, _⟩ := rel_at s r idx sl e hrel hs he
    have hr := rel_meta s _ r idx sl _ e hrel hinv hlay0 hs he (by rw [Db.writeIfDirty_eq]) (by rw [Db.writeIfDirty_eq])
      (by rw [hx]) (by rw [hx]) (by rw [hx]; exact Nat.le_refl _)
    rw [hx] at hr
    simp only at hr
    rw [List.take_of_length_le (by omega)] at hr
    exact hr

theorem rel_drop (s s' : Db) (r : Ref) (idx : Nat) (hrel : Rel s r) (hinv : RInv s) (hlay : LInv s')
    (hslots : s'.slots = s.slots.set idx none) (hmem : s'.mem = s.mem) : Rel s' (r.set idx none) ∧ RInv s' := by
  have hnone : s'.slot? idx = none := slot?_set_none hslots
  refine (quietOff_of_set_mem hslots hinv.bnd hmem).rel r _ hrel hinv hlay (by rw [List.length_set, hrel.1, hslots, List.length_set])
    (fun j hj => List.getElem?_set_ne (Ne.symm hj)) (fun j hj => ?_) (fun j X hj hX => by subst hj; rw [hnone] at hX; cases hX)
  rw [hj]; unfold viewAt; rw [hnone, join_set_none]; rfl

/-- under the layout invariant the removal of a live region succeeds: the start map answers with the region itself -/
theorem remove_shape (s : Db) (idx : Nat) (sl : Slot) (hlay : LInv s) (hs : s.slot? idx = some sl) :
    (s.remove idx false).2 = .ok ∧ (s.remove idx false).1.slots = s.slots.set idx none ∧ (s.remove idx false).1.mem = s.mem := by
  have hg := region_of_slot hlay hs
  rcases Db.spec_some hs (Db.remove_spec (pair_of_snd rfl : s.remove idx false = _)) with ⟨e, _⟩ | ⟨_, hne, _⟩ | ⟨_, _, eo, et⟩
  · cases e
  · exact absurd hg hne
  · rw [eo, et]; exact ⟨rfl, rfl, rfl⟩

theorem rel_remove (s : Db) (r : Ref) (idx : Nat) (sl : Slot) (hrel : Rel s r) (hinv : RInv s) (hs : s.slot? idx = some sl) :
    Rel (s.remove idx false).1 (r.set idx none) ∧ RInv (s.remove idx false).1 := by
  obtain ⟨_, h2, h3⟩ := remove_shape s idx sl hinv.lay hs
  exact rel_drop s _ r idx hrel hinv (linv_remove s idx false hinv.lay) h2 h3

/-- The fold of `retain` (`Db.retain_eq`), by an induction of its own: what it says of the result depends on which victims have been
removed already, and the predicate of `Db.retain_ind` cannot mention them. -/
theorem retain_fold (l : List Nat) (acc : Db × Out) (hl : LInv acc.1) (ho : acc.2 = .ok) (hn : l.Nodup)
    (hlive : ∀ v ∈ l, (acc.1.slot? v).isSome) :
    let res := l.foldl (fun (acc : Db × Out) i => match acc.2 with | .ok => acc.1.remove i false | _ => acc) acc
    res.2 = .ok ∧ res.1.mem = acc.1.mem ∧ res.1.slots.length = acc.1.slots.length ∧
      ∀ j, res.1.slot? j = if j ∈ l then none else acc.1.slot? j := by
  induction l generalizing acc with
  | nil => exact ⟨ho, rfl, rfl, fun j => by simp⟩
  | cons v t ih =>
    simp only [List.foldl_cons]
    have hv := hlive v (List.mem_cons_self ..)
    cases hsv : acc.1.slot? v with
    | none => rw [hsv] at hv; cases hv
    | some sl =>
      obtain ⟨r1, r2, r3⟩ := remove_shape acc.1 v sl hl hsv
      have hstep : (match acc.2 with | .ok => acc.1.remove v false | _ => acc) = acc.1.remove v false := by rw [ho]
      rw [hstep]
      have hnd := List.nodup_cons.mp hn
      obtain ⟨q1, q2, q3, q4⟩ := ih (acc.1.remove v false) (linv_remove acc.1 v false hl) r1 hnd.2 (by
        intro w hw
        have hwv : w ≠ v := fun he => hnd.1 (he ▸ hw)
        rw [slot?_set_ne r2 hwv]
        exact hlive w (List.mem_cons_of_mem _ hw))
      refine ⟨q1, by rw [q2, r3], by rw [q3, r2, List.length_set], fun j => ?_⟩
      rw [q4 j]
      by_cases hjt : j ∈ t
      · rw [if_pos hjt, if_pos (List.mem_cons_of_mem _ hjt)]
      · by_cases hjv : j = v
        · subst hjv
          simp only [hjt, if_false, List.mem_cons, true_or, if_true]
          exact slot?_set_none r2
        · simp only [hjt, if_false, List.mem_cons, hjv, or_self]
          exact slot?_set_ne r2 hjv

theorem retain_shape (s : Db) (keep : List RegionId) (hl : LInv s) :
    (s.retain keep).2 = .ok ∧ (s.retain keep).1.mem = s.mem ∧ (s.retain keep).1.slots.length = s.slots.length ∧
      ∀ j, (s.retain keep).1.slot? j = if j ∈ Db.victims s keep then none else s.slot? j := by
  rw [Db.retain_eq]
  exact retain_fold _ (s, .ok) hl rfl (Db.victims_nodup s keep) (fun v hv => by
    obtain ⟨sl, h1, _⟩ := Db.mem_victims.mp hv
    rw [h1]; rfl)

theorem refRetain_get (s : Db) (r : Ref) (keep : List RegionId) (hrel : Rel s r) (j : Nat) :
    (refRetain r keep)[j]? = if j ∈ Db.victims s keep then some none else r[j]? := by
  unfold refRetain
  rw [List.getElem?_map]
  cases hs : s.slot? j with
  | none =>
    rw [if_neg (fun hm => by obtain ⟨sl, h1, _⟩ := Db.mem_victims.mp hm; rw [hs] at h1; cases h1)]
    have hv := hrel.2 j
    unfold viewAt at hv
    rw [hs] at hv
    cases hr : r[j]? with
    | none => rfl
    | some o =>
      cases o with
      | none => rfl
      | some e => rw [hr] at hv; cases hv
  | some sl =>
    obtain ⟨e, he, hid, _⟩ := rel_get s r j sl hrel hs
    rw [Option.join_eq_some_iff.mp he, Option.map_some]
    cases hk : keep.contains e.1 with
    | true =>
      rw [if_neg (fun hm => by
        obtain ⟨sl', h1, h2⟩ := Db.mem_victims.mp hm
        rw [hs] at h1; cases h1; rw [← hid, hk] at h2; cases h2)]
      simp only [hk, if_true]
    | false =>
      rw [if_pos (Db.mem_victims.mpr ⟨sl, hs, by rw [← hid, hk]⟩)]
      simp only [hk, Bool.false_eq_true, if_false]

theorem rel_retain (s : Db) (r : Ref) (keep : List RegionId) (hrel : Rel s r) (hinv : RInv s) :
    Rel (s.retain keep).1 (refRetain r keep) ∧ RInv (s.retain keep).1 := by
  obtain ⟨_, q2, q3, q4⟩ := retain_shape s keep hinv.lay
  have hq : QuietOff (· ∈ Db.victims s keep) s (s.retain keep).1 :=
    ⟨by rw [q2]; exact Nat.le_refl _, fun j hj => ⟨by rw [q4 j, if_neg hj], fun _ _ _ _ => by rw [q2]⟩⟩
  have hnone : ∀ j, j ∈ Db.victims s keep → (s.retain keep).1.slot? j = none := fun j hj => by rw [q4 j, if_pos hj]
  refine hq.rel r _ hrel hinv (linv_retain s keep hinv.lay) (by unfold refRetain; rw [List.length_map, hrel.1, q3])
    (fun j hj => by rw [refRetain_get s r keep hrel j, if_neg hj])
    (fun j hj => ?_) (fun j X hj hX => by rw [hnone j hj] at hX; cases hX)
  rw [refRetain_get s r keep hrel j, if_pos hj]
  unfold viewAt
  rw [hnone j hj]; rfl

def mds (s : Db) : List (Option Meta) := s.slots.map (Option.map (·.md))

/-- no slot's metadata changes, the file does not shrink, every live region's bytes stay -/
def Quiet (s s' : Db) : Prop :=
  mds s' = mds s ∧ s.mem.size ≤ s'.mem.size ∧
    ∀ j sl, s.slot? j = some sl → ∀ i, i < sl.md.len → s'.mem.get? (sl.md.start + i) = s.mem.get? (sl.md.start + i)

theorem quiet_of_eq (s s' : Db) (h1 : mds s' = mds s) (h2 : s'.mem = s.mem) : Quiet s s' :=
  ⟨h1, by rw [h2]; exact Nat.le_refl _, fun _ _ _ _ _ => by rw [h2]⟩

theorem Quiet.trans {a b c : Db} (h1 : Quiet a b) (h2 : Quiet b c) : Quiet a c := by
  refine ⟨h2.1.trans h1.1, Nat.le_trans h1.2.1 h2.2.1, fun j sl hs i hi => ?_⟩
  have hm := Db.slot?_md_congr h1.1 j
  rw [hs, Option.map_some, Option.map_eq_some_iff] at hm
  obtain ⟨sl', hb, hm⟩ := hm
  have := h2.2.2 j sl' hb i (by rw [hm]; exact hi)
  rw [hm] at this
  rw [this, h1.2.2 j sl hs i hi]

theorem quietOff_of_quiet {s s' : Db} (h : Quiet s s') (T : Nat → Prop) : QuietOff T s s' :=
  ⟨h.2.1, fun j _ => ⟨Db.slot?_md_congr h.1 j, h.2.2 j⟩⟩

theorem quiet_rinv {s s' : Db} (hq : Quiet s s') (hinv : RInv s) (hlay : LInv s') : RInv s' :=
  (quietOff_of_quiet hq (fun _ => False)).rinv hinv hlay (fun _ _ h => h.elim)

theorem rel_quiet (s s' : Db) (r : Ref) (hrel : Rel s r) (hinv : RInv s) (hlay : LInv s') (hq : Quiet s s') : Rel s' r ∧ RInv s' := by
  have hlen : s'.slots.length = s.slots.length := by
    have := congrArg List.length hq.1; unfold mds at this; simpa using this
  exact (quietOff_of_quiet hq (fun _ => False)).rel r r hrel hinv hlay (by rw [hrel.1, hlen]) (fun _ _ => rfl) (fun _ h => h.elim)
    (fun _ _ h => h.elim)

theorem mds_emit (s : Db) (e : Event) : mds (s.emit e) = mds s := rfl
theorem mem_emit (s : Db) (e : Event) : (s.emit e).mem = s.mem := rfl

theorem quiet_of_flagsOnly {s t : Db} (h : Db.FlagsOnly s t) : Quiet s t := by
  obtain ⟨sl', evs, hm, _, rfl⟩ := h
  exact quiet_of_eq s _ hm rfl

theorem quiet_flush (s : Db) : Quiet s s.flush.1 := by
  obtain ⟨sl', evs, hm, _, e⟩ := Db.flagsOnly_flushPre s
  rw [Db.flush_eq, e]
  exact quiet_of_eq s _ hm rfl

theorem quiet_regionFlush (s : Db) (idx : Nat) : Quiet s (s.regionFlush idx).1 :=
  quiet_of_flagsOnly (Db.flagsOnly_regionFlush s idx)

theorem quiet_setMinLen (s : Db) (n : Nat) (hb : Bounds s) : Quiet s (s.setMinLen n) := by
  have hf := memFrame_setMinLen s n
  exact ⟨by unfold mds; rw [(Db.setMinLen_rest s n).1], hf.1,
    fun j sl hs i hi => hf.grown _ (hb.lt_size hs hi)⟩

theorem quiet_regionsSetMinSlots (s : Db) (n : Nat) : Quiet s (s.regionsSetMinSlots n) :=
  quiet_of_eq s _ (by unfold mds; rw [(Db.regionsSetMinSlots_rest s n).2.2.1]) (Db.regionsSetMinSlots_rest s n).2.1

/-- hole punching only hits region tails beyond `start + ceilPage len` and free extents, both apart from every region's contents -/
theorem quiet_punchHoles (s : Db) (hinv : RInv s) : Quiet s s.punchHoles := by
  obtain ⟨_, hsl, _, _, _, _, _, hsz⟩ := Db.punchHoles_rest s
  refine ⟨by unfold mds; rw [hsl], by rw [hsz]; exact Nat.le_refl _, fun j sl hs i hi => ?_⟩
  have hb := hinv.bnd j sl hs
  refine Db.punchHoles_ind (P := fun t => t.mem.get? (sl.md.start + i) = s.mem.get? (sl.md.start + i)) s rfl
    (fun t r hr hp => (get?_punch _ _ _ _ ?_).trans hp) (fun _ h => h)
  have := punchCand_apart s hinv.lay r hr j sl hs
  have := le_ceilPage sl.md.len
  omega

theorem quiet_compact (s : Db) (hinv : RInv s) : Quiet s s.compact.1 ∧ RInv s.compact.1 := by
  have hq1 := quiet_flush s
  have hi1 := quiet_rinv hq1 hinv (linv_flush s hinv.lay)
  have hq2 := quiet_punchHoles s.flush.1 hi1
  have hl := linv_compact s hinv.lay
  have e : s.compact.1 = s.flush.1.punchHoles := by rw [Db.compact_eq]
  rw [e] at hl ⊢
  exact ⟨hq1.trans hq2, quiet_rinv hq2 hi1 hl⟩

theorem rel_compact (s : Db) (r : Ref) (hrel : Rel s r) (hinv : RInv s) : Rel s.compact.1 r ∧ RInv s.compact.1 := by
  obtain ⟨hq, hi⟩ := quiet_compact s hinv
  exact ⟨(rel_quiet s _ r hrel hinv hi.lay hq).1, hi⟩

end AnyDB.C01r
