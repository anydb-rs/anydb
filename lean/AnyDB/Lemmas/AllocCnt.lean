import AnyDB.Lemmas.Seg

/-!
Counting lemmas for the free-space bookkeeping of rawdb (`remove_or_compress_hole`, `find_smallest_adequate_hole`,
`promote_pending_holes`) in the style of `Props/C10.lean`: `cnt l x` = number of extents of `l` that cover byte `x`.
Every operation is characterised by what it does to `cnt` at every byte; disjointness is `cnt ≤ 1`.
-/
namespace AnyDB.C02r
open Conc

theorem filter_start_singleton (l : List E) (e : E) (hp : Pos l) (ho : One l) (he : e ∈ l) :
    l.filter (fun a => a.1 == e.1) = [e] := by
  have hsub : ∀ a ∈ l.filter (fun a => a.1 == e.1), a.1 = e.1 := by
    intro a ha; have := (List.mem_filter.mp ha).2; simpa using this
  have hpos : Pos (l.filter (fun a => a.1 == e.1)) := fun a ha => hp a (List.mem_filter.mp ha).1
  have hlen := cnt_at_start _ e.1 hpos hsub
  have hle : cnt (l.filter (fun a => a.1 == e.1)) e.1 ≤ 1 := by
    have := cnt_filter_split l (fun a => a.1 == e.1) e.1
    have := ho e.1
    omega
  have hmem : e ∈ l.filter (fun a => a.1 == e.1) := List.mem_filter.mpr ⟨he, by simp⟩
  generalize hl : l.filter (fun a => a.1 == e.1) = f at hmem hlen hle
  match f, hmem, hlen, hle with
  | [], hmem, _, _ => cases hmem
  | [a], hmem, _, _ => simp at hmem; rw [hmem]
  | a :: b :: t, _, hlen, hle => simp at hlen; omega

theorem cnt_alErase (l : List E) (e : E) (x : Nat) (hp : Pos l) (ho : One l) (he : e ∈ l) :
    cnt (alErase l e.1) x + ind e x = cnt l x := by
  have h1 := cnt_filter_split l (fun a => a.1 == e.1) x
  rw [filter_start_singleton l e hp ho he] at h1
  have : l.filter (fun a => !(a.1 == e.1)) = alErase l e.1 := by
    unfold alErase; congr 1
  rw [this] at h1
  simp only [cnt, ind] at h1 ⊢
  omega

theorem alErase_one (l : List E) (s : Nat) (ho : One l) : One (alErase l s) := by
  intro x
  have h := cnt_filter_split l (fun a => a.1 != s) x
  have h2 := ho x
  have e : alErase l s = l.filter (fun a => a.1 != s) := rfl
  rw [e]
  omega

theorem removeOrCompress_cnt (holes hs' : List E) (start by_ size : Nat) (hp : Pos holes) (ho : One holes)
    (hg : alGet holes start = some size) (h : removeOrCompress holes start by_ = .ok hs') (x : Nat) :
    by_ ≤ size ∧ cnt hs' x + ind (start, by_) x = cnt holes x ∧ (0 < by_ → Pos hs') := by
  have hm := mem_of_alGet holes start size hg
  have he : cnt (alErase holes start) x + ind (start, size) x = cnt holes x := cnt_alErase holes (start, size) x hp ho hm
  have hpos : 0 < by_ → Pos hs' := fun hb => all_removeOrCompress seg_pos holes hs' start by_ hp hb h
  rcases removeOrCompress_spec h with ⟨hn, _⟩ | ⟨sz', hg', ⟨heq, e⟩ | ⟨hgt, e⟩ | ⟨_, e⟩⟩
  · rw [hg] at hn; cases hn
  · cases hg.symm.trans hg'
    cases e
    subst heq
    exact ⟨Nat.le_refl _, he, hpos⟩
  · cases hg.symm.trans hg'
    cases e
    refine ⟨by omega, ?_, hpos⟩
    have := ind_adjacent start by_ size x (by omega)
    rw [cnt_append, cnt_cons, cnt_nil]
    omega
  · cases e

theorem alGet_of_mem (l : List E) (e : E) (hp : Pos l) (ho : One l) (he : e ∈ l) : alGet l e.1 = some e.2 := by
  -- starts are unique: the entries that start where `e` does are `e` alone
  refine alGet_of_unique he (fun v' hv' => ?_)
  have ha : (e.1, v') ∈ l.filter (fun c => c.1 == e.1) := List.mem_filter.mpr ⟨hv', by simp⟩
  rw [filter_start_singleton l e hp ho he, List.mem_singleton] at ha
  exact (congrArg Prod.snd ha :)

theorem bestFit_alGet (holes : List E) (need hstart : Nat) (hp : Pos holes) (ho : One holes)
    (h : bestFit holes need = some hstart) : ∃ size, alGet holes hstart = some size ∧ need ≤ size := by
  obtain ⟨b, hb, h1, h2, _⟩ := bestFit_some h
  exact ⟨b.2, h1 ▸ alGet_of_mem holes b hp ho hb, h2⟩

theorem cnt_sortedInsert (l : List E) (k v : Nat) (x : Nat) (hk : ∀ e ∈ l, e.1 ≠ k) :
    cnt (sortedInsert l k v) x = cnt l x + ind (k, v) x := by
  induction l with
  | nil => simp [sortedInsert, cnt, ind]
  | cons a t ih =>
    obtain ⟨a1, a2⟩ := a
    have hne : a1 ≠ k := hk (a1, a2) (List.mem_cons_self ..)
    simp only [sortedInsert]
    split
    · simp only [cnt_cons]; omega
    · split
      · rename_i heq; exact absurd heq.symm hne
      · simp only [cnt_cons]
        rw [ih (fun e he => hk e (List.mem_cons_of_mem _ he))]; omega

theorem joinLeft_spec (hs : List E) (p : E) (hp : Pos hs) (ho : One hs) (x : Nat) :
    cnt (joinLeft hs p).1 x + ind ((joinLeft hs p).2.1, (joinLeft hs p).2.2) x = cnt hs x + ind p x ∧
    Pos (joinLeft hs p).1 ∧ One (joinLeft hs p).1 := by
  rcases joinLeft_eq hs p with e | ⟨h, hph, hadj, e⟩
  · rw [e]; exact ⟨rfl, hp, ho⟩
  · rw [e]
    have hm := mem_of_prevHole hs p.1 h hph
    have he := cnt_alErase hs h x hp ho hm
    refine ⟨?_, all_alErase hs h.1 hp, alErase_one hs h.1 ho⟩
    -- the merged hole `(h.1, p.2 + h.2)` is `h` followed by `p`
    have := ind_split h.1 h.2 p.2 x
    obtain ⟨h1, h2⟩ := h
    obtain ⟨p1, p2⟩ := p
    simp only at hadj this he ⊢
    rw [hadj, Nat.add_comm h2] at this
    omega

theorem joinRight_spec (r1 : List E × Nat × Nat) (hp : Pos r1.1) (ho : One r1.1) (x : Nat) :
    cnt ((joinRight r1).1 ++ [(r1.2.1, (joinRight r1).2)]) x = cnt r1.1 x + ind (r1.2.1, r1.2.2) x := by
  rcases joinRight_eq r1 with ⟨_, e⟩ | ⟨a, hg, e⟩
  · rw [e]; simp only; rw [cnt_append, cnt_cons, cnt_nil]; omega
  · rw [e]
    simp only
    have he : cnt (alErase r1.1 (r1.2.1 + r1.2.2)) x + ind (r1.2.1 + r1.2.2, a) x = cnt r1.1 x :=
      cnt_alErase r1.1 (r1.2.1 + r1.2.2, a) x hp ho (mem_of_alGet r1.1 _ a hg)
    have := ind_split r1.2.1 r1.2.2 a x
    rw [cnt_append, cnt_cons, cnt_nil]
    omega

/-- merging with the neighbours changes the extents, not the bytes covered -/
theorem promoteOne_cnt (hs : List E) (p : E) (hp : Pos hs) (ho : One hs) (hpp : 0 < p.2) (x : Nat) :
    cnt (promoteOne hs p) x = cnt hs x + ind p x ∧ Pos (promoteOne hs p) := by
  refine ⟨?_, all_promoteOne seg_pos hs p hp hpp⟩
  rw [promoteOne_eq]
  obtain ⟨k1, k2, k3⟩ := joinLeft_spec hs p hp ho x
  rw [joinRight_spec (joinLeft hs p) k2 k3 x, k1]

theorem promote_cnt (hs pending : List E) (hp : Pos hs) (hpp : Pos pending) (ho : ∀ x, cnt hs x + cnt pending x ≤ 1) :
    (∀ x, cnt (promote hs pending) x = cnt hs x + cnt pending x) ∧ Pos (promote hs pending) := by
  induction pending generalizing hs with
  | nil => exact ⟨fun x => by simp [promote, cnt], hp⟩
  | cons p t ih =>
    have hone : One hs := fun x => by have := ho x; omega
    have hp0 : 0 < p.2 := hpp p (List.mem_cons_self ..)
    have hstep : promote hs (p :: t) = promote (promoteOne hs p) t := rfl
    rw [hstep]
    have hpo := fun x => promoteOne_cnt hs p hp hone hp0 x
    obtain ⟨i1, i2⟩ := ih (promoteOne hs p) (hpo 0).2 (fun e he => hpp e (List.mem_cons_of_mem _ he))
      (fun x => by have := (hpo x).1; have := ho x; simp only [cnt_cons] at this; omega)
    refine ⟨fun x => ?_, i2⟩
    rw [i1 x, (hpo x).1, cnt_cons]; omega

end AnyDB.C02r
