import AnyDB.Lemmas.Footprint
/-!
The metadata file agrees with the slots (towards `reopen`).

`FInv` speaks of each index by itself — the slot there and the image the metadata file holds there (`FOk`, `finv_iff`) — so a
state that agrees with one of the invariant everywhere but at one index, and is in order there, satisfies it (`finv_frame`).
The file is written in exactly one place, `write_if_dirty` (`finv_writeIfDirty`), and cleared in one, removal.

At the end, `SInv`: the five invariants a request keeps unless it panics (`LInv`, `Acc`, `Al`, `InF`, `FInv`).  The reopen
theorems (`Props/C01Reopen.lean`, `Props/C01Total.lean`) start from this bundle.
-/
namespace AnyDB.C01r
open Db C02r

/-- `regions` file vs slot table: a freed slot has no image; a live slot lies inside the file, has a storable name, and —
unless its metadata was never written (`needsWrite`: created and never given data or a new name) — its image is its metadata;
a never-written slot is empty and has no dirty bounds (so `flush` never marks it clean) -/
structure FInv (s : Db) : Prop where
  dead : ∀ idx, s.slot? idx = none → s.rfile[idx]?.join = none
  live : ∀ idx sl, s.slot? idx = some sl → idx < s.rfile.length ∧ sl.md.id.length ≤ Gen.MAX_REGION_ID_LEN ∧
    (sl.st = .needsWrite → sl.md.len = 0 ∧ sl.dmax = 0) ∧ (sl.st ≠ .needsWrite → s.rfile[idx]?.join = some sl.md)

theorem finv_init : FInv Db.init := ⟨fun _ _ => rfl, fun _ _ h => nomatch h⟩

/-- what `FInv` says of one index: the slot there and the image the metadata file holds there -/
def FOk : Option Slot → Option (Option Meta) → Prop
  | none, img => img.join = none
  | some sl, img => img.isSome ∧ sl.md.id.length ≤ Gen.MAX_REGION_ID_LEN ∧
      (sl.st = .needsWrite → sl.md.len = 0 ∧ sl.dmax = 0) ∧ (sl.st ≠ .needsWrite → img = some (some sl.md))

theorem finv_iff (s : Db) : FInv s ↔ ∀ idx, FOk (s.slot? idx) s.rfile[idx]? := by
  constructor
  · intro h idx
    cases hs : s.slot? idx with
    | none => exact h.dead idx hs
    | some sl =>
      obtain ⟨a, b, c, d⟩ := h.live idx sl hs
      exact ⟨by rw [List.getElem?_eq_getElem a]; rfl, b, c, fun e => Option.join_eq_some_iff.mp (d e)⟩
  · intro h
    refine ⟨fun idx hs => by have := h idx; rw [hs] at this; exact this, fun idx sl hs => ?_⟩
    have := h idx; rw [hs] at this
    obtain ⟨a, b, c, d⟩ := this
    obtain ⟨o, ho⟩ := Option.isSome_iff_exists.mp a
    exact ⟨(List.getElem?_eq_some_iff.mp ho).1, b, c, fun e => Option.join_eq_some_iff.mpr (d e)⟩

theorem finv_frame (s f : Db) (h : FInv s) (idx : Nat)
    (hoth : ∀ j, j ≠ idx → f.slot? j = s.slot? j ∧ f.rfile[j]? = s.rfile[j]?)
    (hidx : FOk (f.slot? idx) f.rfile[idx]?) : FInv f := by
  rw [finv_iff] at h ⊢
  intro j
  by_cases hj : j = idx
  · rw [hj]; exact hidx
  · rw [(hoth j hj).1, (hoth j hj).2]; exact h j

theorem finv_congr (s f : Db) (h : FInv s) (h1 : f.slots = s.slots) (h2 : f.rfile = s.rfile) : FInv f := by
  rw [finv_iff] at h ⊢
  intro j; rw [slot?_congr h1, h2]; exact h j

theorem finv_slotwise (s f : Db) (h : FInv s) (g : Slot → Slot) (f1 : ∀ j, f.slot? j = (s.slot? j).map g) (f2 : f.rfile = s.rfile)
    (hg : ∀ sl img, FOk (some sl) img → FOk (some (g sl)) img) : FInv f := by
  rw [finv_iff] at h ⊢
  intro j
  rw [f1 j, f2]
  have := h j
  cases hs : s.slot? j with
  | none => rw [hs] at this; exact this
  | some sl => rw [hs] at this; exact hg sl _ this

theorem finv_writeIfDirty (s t : Db) (h : FInv s) (idx : Nat) (old sl : Slot) (hs : s.slot? idx = some old) (ho : Oth s t idx)
    (hk : SKept old sl) (hid : sl.md.id.length ≤ Gen.MAX_REGION_ID_LEN) : FInv (t.writeIfDirty idx sl) := by
  have hidx : idx < t.slots.length := by rw [ho.1]; exact slot?_lt hs
  have hold := (finv_iff s).mp h idx
  rw [hs] at hold
  obtain ⟨a, _, _, d⟩ := hold
  have ha : idx < s.rfile.length := (h.live idx old hs).1
  rw [writeIfDirty_eq]
  refine finv_frame s _ h idx (fun j hj => ⟨(slot?_set_ne (s := t) rfl hj).trans (ho.2.1 j hj), ?_⟩) ?_
  · show (if sl.st = .needsWrite then t.rfile.set idx (some sl.md) else t.rfile)[j]? = _
    rw [ho.2.2]
    split
    · exact List.getElem?_set_ne (Ne.symm hj)
    · rfl
  · rw [slot?_set_self (s := t) rfl hidx]
    show FOk _ (if sl.st = .needsWrite then t.rfile.set idx (some sl.md) else t.rfile)[idx]?
    rw [ho.2.2]
    refine ⟨?_, by rw [stored_md]; exact hid, fun e => absurd e (stored_st sl), fun _ => ?_⟩
    · split
      · rw [List.getElem?_set_self ha]; rfl
      · exact a
    · rw [stored_md]
      by_cases hnw : sl.st = .needsWrite
      · rw [if_pos hnw, List.getElem?_set_self ha]
      · rw [if_neg hnw]
        rcases hk with hk | ⟨hk1, hk2⟩
        · exact absurd hk hnw
        · rw [hk1]; exact d (by rw [← hk2]; exact hnw)

theorem finv_wend (idx : Nat) (sl : Slot) (s t : Db) (r : Db × Out) (h : FInv s) (hs : s.slot? idx = some sl) (ho : Oth s t idx)
    (he : C05r.WEnd idx sl t r) : IsPanic r.2 ∨ FInv r.1 := by
  cases he with
  | stop o hc =>
    rcases hc with hp | hc
    · exact Or.inl hp
    · right
      refine finv_frame s t h idx (fun j hj => ⟨ho.2.1 j hj, by rw [ho.2.2]⟩) ?_
      rw [hc, ho.2.2, ← hs]; exact (finv_iff s).mp h idx
  | store X hk hid =>
    exact Or.inr (finv_writeIfDirty s t h idx sl X hs ho hk (by rw [hid]; exact (h.live idx sl hs).2.1))
  | mark x y hxy =>
    right
    have hidx : idx < t.slots.length := by rw [ho.1]; exact slot?_lt hs
    have hold := (finv_iff s).mp h idx
    rw [hs] at hold
    obtain ⟨a, b, c, d⟩ := hold
    refine finv_frame s _ h idx (fun j hj => ⟨(slot?_set_ne (t := t.setSlot idx (some (markDirty sl x y))) rfl hj).trans (ho.2.1 j hj), ?_⟩) ?_
    · show t.rfile[j]? = _; rw [ho.2.2]
    · rw [slot?_set_self (t := t.setSlot idx (some (markDirty sl x y))) rfl hidx]
      show FOk _ t.rfile[idx]?
      rw [ho.2.2]
      refine ⟨a, b, fun e => ⟨(c e).1, ?_⟩, d⟩
      -- a never-written slot is empty, so no byte below its length can have been marked
      have := c e
      show max sl.dmax (x + y) = 0
      omega

theorem finv_truncate (s : Db) (h : FInv s) (idx n : Nat) : FInv (s.truncate idx n).1 :=
  truncate_state s idx n h fun sl hs _ => finv_writeIfDirty s s h idx sl _ hs (Oth.refl s idx) (skept_metaSetLen sl n)
    (by rw [metaSetLen_md]; exact (h.live idx sl hs).2.1)

theorem finv_rename (s : Db) (h : FInv s) (idx : Nat) (nid : RegionId) : FInv (s.rename idx nid).1 :=
  rename_state s idx nid h fun sl hs hv => finv_writeIfDirty s s h idx sl _ hs (Oth.refl s idx) (skept_metaSetId sl nid)
    (by rw [metaSetId_md]; exact idValid_len nid hv)

theorem finv_dropped (t : Db) (h : FInv t) (idx : Nat) (sl : Slot) (hs : t.slot? idx = some sl) : FInv (dropped t idx) := by
  refine finv_frame t _ h idx (fun j hj => ⟨slot?_set_ne (t := dropped t idx) rfl hj, List.getElem?_set_ne (Ne.symm hj)⟩) ?_
  rw [slot?_set_self (t := dropped t idx) rfl (slot?_lt hs)]
  show (t.rfile.set idx none)[idx]?.join = none
  rw [List.getElem?_set_self (h.live idx sl hs).1]; rfl

theorem finv_remove (s : Db) (h : FInv s) (idx : Nat) (extra : Bool) : FInv (s.remove idx extra).1 := by
  refine remove_state s idx extra h (fun _ _ _ => finv_congr s _ h rfl rfl) (fun sl hs _ => finv_dropped _ ?_ idx sl hs)
  exact finv_congr s _ h rfl rfl

theorem finv_removeId (s : Db) (h : FInv s) (id : RegionId) (extra : Bool) : FInv (s.removeId id extra).1 :=
  removeId_cases (P := fun r => FInv r.1) s id extra (fun _ => h) (fun idx _ => finv_remove s h idx extra)

theorem finv_retain (s : Db) (h : FInv s) (keep : List RegionId) : FInv (s.retain keep).1 :=
  retain_ind (P := fun r => FInv r.1) s keep h (fun t i ht _ => finv_remove t ht i false)

theorem finv_writeWith (s : Db) (h : FInv s) (idx : Nat) (d : List UInt8) (at_ : Option Nat) (tr : Bool) :
    IsPanic (s.writeWith idx d at_ tr).2 ∨ FInv (s.writeWith idx d at_ tr).1 := by
  cases hs : s.slot? idx with
  | none => rw [writeWith_absent hs]; exact Or.inr h
  | some sl =>
    obtain ⟨t, A, N, k, e, _⟩ := C05r.writeWith_foot s idx sl d at_ tr hs
    exact finv_wend idx sl s t _ h hs k.1 e

theorem finv_regionsSetMinSlots (s : Db) (h : FInv s) (n : Nat) : FInv (s.regionsSetMinSlots n) := by
  rcases regionsSetMinSlots_eq s n with ⟨_, e⟩ | ⟨_, e⟩
  · rw [e]; exact h
  · -- the metadata file grows by empty images
    rw [e]
    refine ⟨fun idx hd => (join_getElem?_append_none s.rfile _ idx).trans (h.dead idx hd), fun idx sl hl => ?_⟩
    obtain ⟨a, b, c, d⟩ := h.live idx sl hl
    exact ⟨by rw [List.length_append]; omega, b, c, fun e => (join_getElem?_append_none s.rfile _ idx).trans (d e)⟩

theorem finv_setMinLen (s : Db) (h : FInv s) (n : Nat) : FInv (s.setMinLen n) :=
  finv_congr s _ h (setMinLen_rest s n).1 (setMinLen_rest s n).2.1

/-- the slot `create` fills was free, and stays never-written: no image is asked of it -/
theorem finv_added (s1 : Db) (h : FInv s1) (start : Nat) (id : RegionId) (hv : idValid id = true) : FInv (added s1 (freeIdx s1) start id) := by
  obtain ⟨_, hle⟩ := freeIdx_free s1
  have h2 := finv_regionsSetMinSlots s1 h (freeIdx s1 + 1)
  have hlen := regionsSetMinSlots_len s1 (freeIdx s1 + 1)
  have hs2 := slot?_congr (regionsSetMinSlots_rest s1 (freeIdx s1 + 1)).2.2.1
  obtain ⟨_, hrf, _⟩ := added_rest s1 (freeIdx s1) start id
  refine finv_frame _ _ h2 (freeIdx s1) (fun j hj => ⟨?_, by rw [hrf]⟩) ?_
  · rw [added_slot? s1 _ start id hle j, if_neg hj, hs2]
  · rw [added_slot? s1 _ start id hle, if_pos rfl, hrf, List.getElem?_eq_getElem (by omega)]
    exact ⟨rfl, idValid_len id hv, fun _ => ⟨rfl, rfl⟩, fun e => absurd rfl e⟩

theorem finv_createAt (s1 : Db) (h : FInv s1) (id : RegionId) (start : Nat) :
    IsPanic (createAt s1 id start).2 ∨ FInv (createAt s1 id start).1 :=
  createAt_cases (P := fun r => IsPanic r.2 ∨ FInv r.1) s1 id start (fun _ => Or.inl trivial)
    (fun hv => Or.inr (finv_added s1 h start id hv))

theorem finv_create (s : Db) (h : FInv s) (id : RegionId) : IsPanic (s.create id).2 ∨ FInv (s.create id).1 := by
  have h0 : FInv (createPre s) := createPre_cases (P := FInv) s (fun _ => h) (fun _ => finv_setMinLen s h _)
  exact create_cases (P := fun r => IsPanic r.2 ∨ FInv r.1) s id (fun _ _ => Or.inr h) (fun _ _ _ _ _ => Or.inr h0)
    (fun _ hs _ _ _ => finv_createAt { createPre s with holes := hs } (finv_congr (createPre s) _ h0 rfl rfl) id _)
    (fun _ _ => finv_createAt _ h0 id _)

theorem finv_flush (s : Db) (h : FInv s) : FInv s.flush.1 := by
  rw [Db.flush_eq]
  obtain ⟨sl', evs, _, _, e⟩ := flagsOnly_flushPre s
  refine finv_congr (Db.flushPre s) _ (finv_slotwise s _ h flushed (flushPre_slot s) (by rw [e]) ?_) rfl rfl
  -- a never-written slot has no dirty bounds and does not wait for a flush: `flush` leaves it alone
  rintro sl img ⟨a, b, c, d⟩
  by_cases hnw : sl.st = .needsWrite
  · have := (c hnw).2
    rw [flushed_of_not (by rw [hnw, this]; simp)]
    exact ⟨a, b, c, d⟩
  · exact ⟨a, by rw [flushed_md]; exact b, fun e => absurd e (flushed_st hnw), fun _ => by rw [flushed_md]; exact d hnw⟩

theorem finv_punchHoles (s : Db) (h : FInv s) : FInv s.punchHoles :=
  finv_congr s _ h (punchHoles_rest s).2.1 (punchHoles_rest s).2.2.1

theorem finv_compact (s : Db) (h : FInv s) : FInv s.compact.1 := by
  rw [compact_eq]; exact finv_punchHoles _ (finv_flush s h)

theorem finv_regionFlush (s : Db) (h : FInv s) (idx : Nat) : FInv (s.regionFlush idx).1 := by
  rcases regionFlush_spec (pair_of_snd rfl : s.regionFlush idx = _) with ⟨_, e, _⟩ | ⟨sl, X, evs, hs, hmd, hst, hdm, _, e, _⟩
  · rw [e]; exact h
  · rw [e]
    have hold := (finv_iff s).mp h idx
    rw [hs] at hold
    obtain ⟨a, b, c, d⟩ := hold
    refine finv_frame s _ h idx (fun j hj => ⟨slot?_set_ne rfl hj, rfl⟩) ?_
    rw [slot?_set_self rfl (slot?_lt hs)]
    show FOk (some X) s.rfile[idx]?
    rcases hst with e' | ⟨e1, e2⟩
    · -- the flag stays: a slot that still needs writing had empty dirty bounds
      refine ⟨a, by rw [hmd]; exact b, fun hx => ?_, fun hx => by rw [hmd]; exact d (by rw [← e']; exact hx)⟩
      have hc := c (by rw [← e']; exact hx)
      refine ⟨by rw [hmd]; exact hc.1, ?_⟩
      rcases hdm with hd | hd
      · rw [hd]; exact hc.2
      · exact hd
    · -- flushed: written before and after
      refine ⟨a, by rw [hmd]; exact b, fun hx => ?_, fun _ => by rw [hmd]; exact d (by rw [e1]; exact fun hh => MState.noConfusion hh)⟩
      rw [e2] at hx; exact MState.noConfusion hx

theorem finv_setMinRegions (s : Db) (h : FInv s) (n : Nat) : FInv (s.setMinRegions n) := by
  rw [setMinRegions_eq]
  exact finv_setMinLen _ (finv_regionsSetMinSlots s h n) _

theorem finv_step (s : Db) (op : Op) (h : FInv s) (hop : ∀ n, op ≠ .reopen n) : IsPanic (step s op).2 ∨ FInv (step s op).1 := by
  have hwr : ∀ (id : RegionId) (f : Nat → Db × Out), (∀ i, IsPanic (f i).2 ∨ FInv (f i).1) →
      IsPanic (s.withRegion id f).2 ∨ FInv (s.withRegion id f).1 :=
    fun id f hf => withRegion_cases (P := fun r => IsPanic r.2 ∨ FInv r.1) s id f (fun _ => Or.inr h) (fun i _ => hf i)
  cases op with
  | create id => exact finv_create s h id
  | write id d => exact hwr id _ fun i => finv_writeWith s h i d none false
  | writeAt id a d => exact hwr id _ fun i => finv_writeWith s h i d (some a) false
  | truncate id n => exact hwr id _ fun i => Or.inr (finv_truncate s h i n)
  | truncateWrite id a d => exact hwr id _ fun i => finv_writeWith s h i d (some a) true
  | rename id n => exact hwr id _ fun i => Or.inr (finv_rename s h i n)
  | remove id => exact Or.inr (finv_removeId s h id false)
  | removeHeld id => exact Or.inr (finv_removeId s h id true)
  | retain ids => exact Or.inr (finv_retain s h ids)
  | flush => exact Or.inr (finv_flush s h)
  | regionFlush id => exact hwr id _ fun i => Or.inr (finv_regionFlush s h i)
  | compact => exact Or.inr (finv_compact s h)
  | reopen n => exact absurd rfl (hop n)
  | setMinLen n => exact Or.inr (finv_setMinLen s h n)
  | setMinRegions n => exact Or.inr (finv_setMinRegions s h n)

theorem finv_run (s : Db) (ops : List Op) (h : FInv s) (hr : NoReopen ops) (hp : NoPanic s ops) : FInv (run s ops) :=
  run_invariant finv_step s ops h hr hp

/-- the invariants whose preservation needs nothing but "the request did not panic" -/
structure SInv (s : Db) : Prop where
  lay : LInv s
  acc : Acc s
  al : Al s
  inf : InF s
  finv : FInv s

theorem sinv_init : SInv Db.init := ⟨linv_init, acc_init, al_init, inf_init, finv_init⟩

theorem sinv_step (s : Db) (op : Op) (h : SInv s) (hno : ∀ n, op ≠ .reopen n) : IsPanic (step s op).2 ∨ SInv (step s op).1 := by
  rcases (step_keeps s op h.lay hno).2 with hp | k
  · exact Or.inl hp
  · exact (finv_step s op h.finv hno).imp id fun hf => ⟨k.li, k.acc h.acc, k.al h.al, k.inf h.inf, hf⟩

theorem sinv_run (ops : List Op) (hr : NoReopen ops) (hp : NoPanic Db.init ops) : SInv (run Db.init ops) :=
  run_invariant sinv_step _ ops sinv_init hr hp

end AnyDB.C01r
