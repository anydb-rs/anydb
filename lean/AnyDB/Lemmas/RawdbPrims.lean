import AnyDB.Lemmas.LayoutLists
import AnyDB.Lemmas.MemLaws

/-!
The primitives of `Model/Rawdb.lean`: the functions that the operations of `Lemmas/RawdbSteps.lean` are chains of.

The laws of the lookups (`Db.slot?`, `findId`, `reservedOfIdx`, `canExpand`); the state changes in closed form, the state
afterwards as a record update of the state before, so that what a primitive leaves alone is read off by `rfl` (`setMinLen_eq`,
`regionsSetMinSlots_eq`, `dataWrite_eq_some`, `writeIfDirty_eq` with the slot it stores, `stored`; `dataCopy` as a table); the
metadata setters, which flag a slot for writing unless nothing changed (`SKept`); the arithmetic of `write_with`
(`outOfBounds`, `newLenOf`, the copied prefix) and its doubling loop (`growReserved`).
-/
namespace AnyDB

theorem join_set_none {α : Type} (l : List (Option α)) (i : Nat) : (l.set i none)[i]?.join = none := by
  rw [List.getElem?_set, if_pos rfl]
  split <;> rfl

theorem C02r.slot_iff (s : Db) (idx : Nat) (sl : Slot) : s.slot? idx = some sl ↔ s.slots[idx]? = some (some sl) := by
  unfold Db.slot?
  cases h : s.slots[idx]? with
  | none => simp
  | some o => cases o <;> simp

namespace Db

theorem slot?_congr {s t : Db} (h : t.slots = s.slots) (j : Nat) : t.slot? j = s.slot? j := by
  unfold slot?; rw [h]

theorem slot?_of_lt {s : Db} {idx : Nat} (hi : idx < s.slots.length) : s.slot? idx = s.slots[idx] := by
  unfold slot?; rw [List.getElem?_eq_getElem hi]; rfl

theorem slot?_lt {s : Db} {idx : Nat} {sl : Slot} (h : s.slot? idx = some sl) : idx < s.slots.length :=
  (List.getElem?_eq_some_iff.mp ((C02r.slot_iff s idx sl).mp h)).1

theorem getElem?_of_slot?_none {s : Db} {idx : Nat} (h : s.slot? idx = none) (hi : idx < s.slots.length) :
    s.slots[idx]? = some none := by
  rw [List.getElem?_eq_getElem hi, ← slot?_of_lt hi, h]

theorem slot?_set_ne {s t : Db} {idx j : Nat} {o : Option Slot} (h : t.slots = s.slots.set idx o) (hj : j ≠ idx) :
    t.slot? j = s.slot? j := by
  unfold slot?; rw [h, List.getElem?_set_ne (Ne.symm hj)]

theorem slot?_set_self {s t : Db} {idx : Nat} {o : Option Slot} (h : t.slots = s.slots.set idx o) (hi : idx < s.slots.length) :
    t.slot? idx = o := by
  unfold slot?; rw [h, List.getElem?_set_self hi]; rfl

theorem slot?_set_none {s t : Db} {idx : Nat} (h : t.slots = s.slots.set idx none) : t.slot? idx = none := by
  unfold slot?
  rw [h, join_set_none]

theorem slot?_append_ne {s t : Db} {o : Option Slot} {j : Nat} (h : t.slots = s.slots ++ [o]) (hj : j ≠ s.slots.length) :
    t.slot? j = s.slot? j := by
  unfold slot?
  rw [h]
  by_cases hl : j < s.slots.length
  · rw [List.getElem?_append_left hl]
  · rw [List.getElem?_eq_none (by rw [List.length_append, List.length_singleton]; omega), List.getElem?_eq_none (by omega)]

theorem slot?_append_self {s t : Db} {o : Option Slot} (h : t.slots = s.slots ++ [o]) : t.slot? s.slots.length = o := by
  unfold slot?
  rw [h, List.getElem?_append_right (Nat.le_refl _), Nat.sub_self]
  rfl

theorem slot?_map {α : Type} (s : Db) (f : Slot → α) (j : Nat) :
    ((s.slots.map (Option.map f))[j]?).join = (s.slot? j).map f := by
  unfold slot?
  rw [List.getElem?_map]
  cases s.slots[j]? with
  | none => rfl
  | some o => cases o <;> rfl

theorem slot?_md_congr {s t : Db} (h : t.slots.map (Option.map (·.md)) = s.slots.map (Option.map (·.md))) (j : Nat) :
    (t.slot? j).map (·.md) = (s.slot? j).map (·.md) := by
  rw [← slot?_map, ← slot?_map, h]

theorem map_md_set {s : Db} {idx : Nat} {old X : Slot} (hs : s.slot? idx = some old) (hX : X.md = old.md) :
    (s.slots.set idx (some X)).map (Option.map (·.md)) = s.slots.map (Option.map (·.md)) := by
  apply List.ext_getElem?
  intro j
  rw [List.getElem?_map, List.getElem?_map]
  by_cases hj : j = idx
  · subst hj
    have hlt := slot?_lt hs
    rw [List.getElem?_set_self hlt, List.getElem?_eq_getElem hlt, ← slot?_of_lt hlt, hs, Option.map_some, Option.map_some,
      Option.map_some, Option.map_some, hX]
  · rw [List.getElem?_set_ne (Ne.symm hj)]

/-- The new length `k` is kept a variable: written out, the kernel computes it wherever the closed form is used. -/
theorem setMinLen_eq (s : Db) (n : Nat) :
    (ceilPage n ≤ s.fileLen ∧ s.setMinLen n = s) ∨
    ∃ k, s.fileLen < k ∧ ceilPage n ≤ k ∧
      s.setMinLen n = { s with fileLen := k, mem := s.mem.grow k, log := s.log ++ [.setLen .data k] } := by
  unfold setMinLen
  by_cases h : s.fileLen ≥ ceilPage n
  · exact Or.inl ⟨h, if_pos h⟩
  · have hk : ceilPage n ≤ ceilPage (max (max (ceilPage n) (s.fileLen * Gen.GROW_FACTOR)) Gen.GROW_FLOOR) :=
      Nat.le_trans (Nat.le_trans (Nat.le_max_left _ _) (Nat.le_max_left _ _)) (le_ceilPage _)
    exact Or.inr ⟨_, Nat.lt_of_lt_of_le (Nat.lt_of_not_ge h) hk, hk, if_neg h⟩

theorem fileLen_setMinLen (s : Db) (n : Nat) :
    (s.setMinLen n).fileLen = if ceilPage n ≤ s.fileLen then s.fileLen
      else ceilPage (max (max (ceilPage n) (s.fileLen * Gen.GROW_FACTOR)) Gen.GROW_FLOOR) := by
  -- `congrArg` on the branch taken: rewriting inside `setMinLen` makes the kernel compute the new length
  by_cases h : s.fileLen ≥ ceilPage n
  · exact (congrArg Db.fileLen (if_pos h : s.setMinLen n = s)).trans (if_pos h).symm
  · exact (congrArg Db.fileLen (if_neg h : s.setMinLen n = _)).trans (if_neg h).symm

theorem le_fileLen_setMinLen (s : Db) (n : Nat) : n ≤ (s.setMinLen n).fileLen := by
  rcases setMinLen_eq s n with ⟨h, e⟩ | ⟨k, _, h, e⟩
  · rw [e]; exact Nat.le_trans (le_ceilPage n) h
  · rw [e]; exact Nat.le_trans (le_ceilPage n) h

theorem setMinLen_rest (s : Db) (n : Nat) :
    (s.setMinLen n).slots = s.slots ∧ (s.setMinLen n).rfile = s.rfile ∧ (s.setMinLen n).regions = s.regions ∧
    (s.setMinLen n).holes = s.holes ∧ (s.setMinLen n).reserved = s.reserved ∧ (s.setMinLen n).pending = s.pending := by
  rcases setMinLen_eq s n with ⟨_, e⟩ | ⟨k, _, _, e⟩
  · rw [e]; exact ⟨rfl, rfl, rfl, rfl, rfl, rfl⟩
  · rw [e]; exact ⟨rfl, rfl, rfl, rfl, rfl, rfl⟩

theorem setMinLen_zero (s : Db) : s.setMinLen 0 = s := by
  unfold setMinLen; exact if_pos (Nat.zero_le s.fileLen)

theorem regionsSetMinSlots_eq (s : Db) (n : Nat) :
    (n ≤ s.rfile.length ∧ s.regionsSetMinSlots n = s) ∨
    (s.rfile.length < n ∧ s.regionsSetMinSlots n =
      { s with rfile := s.rfile ++ List.replicate (n - s.rfile.length) none,
               log := s.log ++ [.setLen .regions (n * Gen.SIZE_OF_REGION_METADATA)] }) := by
  unfold regionsSetMinSlots
  by_cases h : s.rfile.length < n
  · exact Or.inr ⟨h, if_pos h⟩
  · exact Or.inl ⟨Nat.le_of_not_lt h, if_neg h⟩

theorem regionsSetMinSlots_rest (s : Db) (n : Nat) :
    (s.regionsSetMinSlots n).fileLen = s.fileLen ∧ (s.regionsSetMinSlots n).mem = s.mem ∧
    (s.regionsSetMinSlots n).slots = s.slots ∧ (s.regionsSetMinSlots n).regions = s.regions ∧
    (s.regionsSetMinSlots n).holes = s.holes ∧ (s.regionsSetMinSlots n).reserved = s.reserved ∧
    (s.regionsSetMinSlots n).pending = s.pending := by
  rcases regionsSetMinSlots_eq s n with ⟨_, e⟩ | ⟨_, e⟩
  · rw [e]; exact ⟨rfl, rfl, rfl, rfl, rfl, rfl, rfl⟩
  · rw [e]; exact ⟨rfl, rfl, rfl, rfl, rfl, rfl, rfl⟩

theorem regionsSetMinSlots_len (s : Db) (n : Nat) : n ≤ (s.regionsSetMinSlots n).rfile.length := by
  rcases regionsSetMinSlots_eq s n with ⟨hn, e⟩ | ⟨hn, e⟩
  · rw [e]; exact hn
  · rw [e]; simp only [List.length_append, List.length_replicate]; omega

theorem setMinRegions_eq (s : Db) (n : Nat) : s.setMinRegions n = (s.regionsSetMinSlots n).setMinLen (n * Gen.PAGE_SIZE) := rfl

theorem dataWrite_eq_some {s t : Db} {off : Nat} {d : List UInt8} (h : s.dataWrite off d = some t) :
    ∃ m, s.mem.writeAt off d = some m ∧ t = { s with mem := m, log := s.log ++ [.dataWrite off d] } := by
  unfold dataWrite at h
  split at h
  · cases h; exact ⟨_, by assumption, rfl⟩
  · cases h

theorem dataWrite_fits (s : Db) (off : Nat) (d : List UInt8) (h : off + d.length ≤ s.mem.size) : s.dataWrite off d ≠ none := by
  unfold dataWrite
  cases hm : s.mem.writeAt off d with
  | none => exact absurd hm (Mem.writeAt_ne_none s.mem off d h)
  | some m => nofun

theorem reservedOfIdx_eq {s : Db} {idx : Nat} {sl : Slot} (h : s.slot? idx = some sl) : s.reservedOfIdx idx = sl.md.reserved := by
  unfold reservedOfIdx; rw [h]

theorem metaSetLen_md (sl : Slot) (n : Nat) : (metaSetLen sl n).md = { sl.md with len := n } := by
  unfold metaSetLen; split
  · rename_i h; rw [← h]
  · rfl

theorem metaSetReserved_md (sl : Slot) (n : Nat) : (metaSetReserved sl n).md = { sl.md with reserved := n } := by
  unfold metaSetReserved; split
  · rename_i h; rw [← h]
  · rfl

theorem metaSetStart_md (sl : Slot) (n : Nat) : (metaSetStart sl n).md = { sl.md with start := n } := by
  unfold metaSetStart; split
  · rename_i h; rw [← h]
  · rfl

theorem metaSetId_md (sl : Slot) (n : RegionId) : (metaSetId sl n).md = { sl.md with id := n } := by
  unfold metaSetId; split
  · rename_i h; rw [← h]
  · rfl

theorem markDirty_md (sl : Slot) (a b : Nat) : (markDirty sl a b).md = sl.md := rfl

/-- how the metadata setters leave a slot: flagged for writing, unless nothing changed -/
def SKept (a b : Slot) : Prop := b.st = .needsWrite ∨ (b.md = a.md ∧ b.st = a.st)

theorem SKept.refl (a : Slot) : SKept a a := Or.inr ⟨rfl, rfl⟩

theorem SKept.trans {a b c : Slot} (h1 : SKept a b) (h2 : SKept b c) : SKept a c := by
  rcases h2 with h | ⟨h, h'⟩
  · exact Or.inl h
  · rcases h1 with g | ⟨g, g'⟩
    · exact Or.inl (by rw [h', g])
    · exact Or.inr ⟨by rw [h, g], by rw [h', g']⟩

theorem skept_metaSetLen (sl : Slot) (n : Nat) : SKept sl (metaSetLen sl n) := by
  unfold metaSetLen; split
  · exact SKept.refl _
  · exact Or.inl rfl

theorem skept_metaSetStart (sl : Slot) (n : Nat) : SKept sl (metaSetStart sl n) := by
  unfold metaSetStart; split
  · exact SKept.refl _
  · exact Or.inl rfl

theorem skept_metaSetReserved (sl : Slot) (n : Nat) : SKept sl (metaSetReserved sl n) := by
  unfold metaSetReserved; split
  · exact SKept.refl _
  · exact Or.inl rfl

theorem skept_metaSetId (sl : Slot) (n : RegionId) : SKept sl (metaSetId sl n) := by
  unfold metaSetId; split
  · exact SKept.refl _
  · exact Or.inl rfl

theorem skept_markDirty (sl : Slot) (a b : Nat) : SKept sl (markDirty sl a b) := Or.inr ⟨rfl, rfl⟩

/-- the slot `write_if_dirty` stores -/
def stored (sl : Slot) : Slot := if sl.st = .needsWrite then { sl with st := .needsFlush } else sl

theorem stored_md (sl : Slot) : (stored sl).md = sl.md := by unfold stored; split <;> rfl

theorem stored_st (sl : Slot) : (stored sl).st ≠ .needsWrite := by
  unfold stored; split
  · exact fun h => MState.noConfusion h
  · assumption

theorem writeIfDirty_eq (s : Db) (idx : Nat) (sl : Slot) :
    s.writeIfDirty idx sl =
      { s with slots := s.slots.set idx (some (stored sl)),
               rfile := if sl.st = .needsWrite then s.rfile.set idx (some sl.md) else s.rfile,
               log := s.log ++ (if sl.st = .needsWrite then [.metaWrite idx (some sl.md)] else []) } := by
  unfold writeIfDirty stored
  by_cases h : sl.st = .needsWrite
  · rw [if_pos h, if_pos h, if_pos h, if_pos h]
  · rw [if_neg h, if_neg h, if_neg h, if_neg h, List.append_nil]; rfl

theorem finishWrite_eq (s : Db) (idx : Nat) (sl : Slot) (wo dl nl : Nat) :
    s.finishWrite idx sl wo dl nl = s.writeIfDirty idx (metaSetLen (markDirty sl wo dl) nl) := rfl

theorem layoutRemoveRegion_eq (s : Db) (idx start reserved : Nat) :
    (alGet s.regions start = some idx ∧ s.layoutRemoveRegion idx start reserved =
      ({ s with regions := alErase s.regions start, pending := sortedInsert s.pending start reserved }, true)) ∨
    (alGet s.regions start ≠ some idx ∧ s.layoutRemoveRegion idx start reserved =
      ({ s with regions := alErase s.regions start }, false)) := by
  unfold layoutRemoveRegion
  cases hg : alGet s.regions start with
  | none => exact Or.inr ⟨nofun, rfl⟩
  | some i =>
    by_cases hi : i = idx
    · subst hi; exact Or.inl ⟨rfl, by simp only [if_true]⟩
    · exact Or.inr ⟨fun h => hi (Option.some.inj h), by simp only [if_neg hi]⟩

theorem takeAllDirty_slot (s : Db) (j : Nat) : s.takeAllDirty.slot? j =
    (s.slot? j).map (fun sl => if sl.dmin < sl.dmax then { sl with dmin := USIZE_MAX, dmax := 0 } else sl) :=
  slot?_map s _ j

theorem markCleanStep_eq (s : Db) (x : Nat × Slot × Option (Nat × Nat)) :
    (s.slot? x.1 = none ∧ s.markCleanStep x = s) ∨
    ∃ sl, s.slot? x.1 = some sl ∧ s.markCleanStep x = s.setSlot x.1 (some { sl with st := .clean }) := by
  unfold markCleanStep
  cases hs : s.slot? x.1 with
  | none => exact Or.inl ⟨rfl, rfl⟩
  | some sl => exact Or.inr ⟨sl, rfl, rfl⟩

theorem punchIfData_eq (acc : Db × Nat) (start len : Nat) :
    punchIfData acc start len = acc ∨
    punchIfData acc start len =
      ({ acc.1 with mem := acc.1.mem.punch start len, log := acc.1.log ++ [.punch start len] }, acc.2 + 1) := by
  unfold punchIfData
  split
  · exact Or.inr rfl
  · exact Or.inl rfl

theorem dataCopy_spec {s : Db} {src dst n : Nat} {r : Except Out Db} (h : s.dataCopy src dst n = r) :
    (n = 0 ∧ r = .ok s) ∨
    (n ≠ 0 ∧ ¬(src + n ≤ dst ∨ dst + n ≤ src) ∧ r = .error (.err .overlappingCopyRanges)) ∨
    (n ≠ 0 ∧ (src + n ≤ dst ∨ dst + n ≤ src) ∧
      ((s.mem.size < src + n ∧ r = .error (.panic "copy:slice")) ∨
       (src + n ≤ s.mem.size ∧
         ((s.dataWrite dst (s.mem.slice src n) = none ∧ r = .error (.panic "write_to_mmap")) ∨
          ∃ t, s.dataWrite dst (s.mem.slice src n) = some t ∧ r = .ok t)))) := by
  unfold dataCopy at h
  split at h
  · rename_i h0
    exact Or.inl ⟨h0, h.symm⟩
  · rename_i h0
    split at h
    · rename_i hov
      refine Or.inr (Or.inl ⟨h0, ?_, h.symm⟩)
      simpa only [Bool.not_eq_true', Bool.or_eq_false_iff, decide_eq_false_iff_not, not_or] using hov
    · rename_i hov
      have hov' : src + n ≤ dst ∨ dst + n ≤ src := by
        simpa only [Bool.not_eq_true', Bool.not_eq_false, Bool.or_eq_true, decide_eq_true_eq] using hov
      refine Or.inr (Or.inr ⟨h0, hov', ?_⟩)
      split at h
      · rename_i hin
        exact Or.inl ⟨hin, h.symm⟩
      · rename_i hin
        refine Or.inr ⟨Nat.le_of_not_gt hin, ?_⟩
        split at h
        · rename_i t hw
          exact Or.inr ⟨t, hw, h.symm⟩
        · rename_i hw
          exact Or.inl ⟨hw, h.symm⟩

theorem dataCopy_ok {s t : Db} {src dst n : Nat} (h : s.dataCopy src dst n = .ok t) :
    (n = 0 ∧ t = s) ∨ (n ≠ 0 ∧ src + n ≤ s.mem.size ∧ s.dataWrite dst (s.mem.slice src n) = some t) := by
  rcases dataCopy_spec h with ⟨h0, e⟩ | ⟨_, _, e⟩ | ⟨h0, _, ⟨_, e⟩ | ⟨hin, ⟨_, e⟩ | ⟨t', hw, e⟩⟩⟩
  · cases e; exact Or.inl ⟨h0, rfl⟩
  · cases e
  · cases e
  · cases e
  · cases e; exact Or.inr ⟨h0, hin, hw⟩

theorem canExpand_true {s : Db} {sl : Slot} {nr : Nat} (h : s.canExpand sl nr = true) :
    ∃ gap, alGet s.holes (sl.md.start + sl.md.reserved) = some gap ∧ nr - sl.md.reserved ≤ gap := by
  unfold canExpand at h
  split at h
  · rename_i gap hg
    exact ⟨gap, hg, of_decide_eq_true h⟩
  · cases h

theorem oob_some (a n : Nat) : outOfBounds (some a) n = false ↔ a ≤ n := by
  unfold outOfBounds; simp

theorem oob_true (at_ : Option Nat) (n : Nat) : outOfBounds at_ n = true ↔ ∃ a, at_ = some a ∧ a > n := by
  unfold outOfBounds; cases at_ <;> simp

theorem getD_le_of_oob {at_ : Option Nat} {len : Nat} (h : outOfBounds at_ len = false) : at_.getD len ≤ len := by
  cases at_ with
  | none => exact Nat.le_refl _
  | some a => exact (oob_some _ _).mp h

theorem newLenOf_trunc (at_ : Option Nat) (len dl : Nat) : newLenOf at_ true len dl = at_.getD len + dl := by
  cases at_ <;> rfl

theorem newLen_bounds (at_ : Option Nat) (tr : Bool) (len dl : Nat) :
    at_.getD len + dl ≤ newLenOf at_ tr len dl ∧ newLenOf at_ tr len dl ≤ max (at_.getD len + dl) len := by
  unfold newLenOf
  cases at_ with
  | none => simp
  | some a => cases tr <;> simp <;> omega

/-- the copied prefix `cl` of `write_with`: what of the old contents survives the write lies in it -/
theorem copyLen_spec (at_ : Option Nat) (tr : Bool) (len dl : Nat) (hwo : at_.getD len ≤ len) :
    (if tr then at_.getD len else len) ≤ len ∧
    newLenOf at_ tr len dl ≤ max (at_.getD len + dl) (if tr then at_.getD len else len) ∧
    ∀ i, i < len → i < newLenOf at_ tr len dl → ¬(at_.getD len ≤ i ∧ i < at_.getD len + dl) →
      i < (if tr then at_.getD len else len) := by
  cases tr with
  | true =>
    rw [newLenOf_trunc]
    simp only [if_true]
    exact ⟨hwo, by omega, fun i h1 h2 h3 => by omega⟩
  | false =>
    simp only [Bool.false_eq_true, if_false]
    exact ⟨Nat.le_refl _, (newLen_bounds at_ false len dl).2, fun i h1 _ _ => h1⟩

theorem findId_some {s : Db} {id : RegionId} {idx : Nat} (h : s.findId id = some idx) :
    ∃ sl, s.slot? idx = some sl ∧ sl.md.id = id := by
  unfold findId at h
  obtain ⟨hi, hp, _⟩ := List.findIdx?_eq_some_iff_getElem.mp h
  cases hx : s.slots[idx] with
  | none => rw [hx] at hp; cases hp
  | some sl =>
    rw [hx] at hp
    exact ⟨sl, by rw [slot?_of_lt hi, hx], by simpa using hp⟩

theorem idValid_len (id : RegionId) (h : idValid id = true) : id.length ≤ Gen.MAX_REGION_ID_LEN := by
  unfold idValid at h
  simp only [Bool.and_eq_true, decide_eq_true_eq] at h
  exact h.1.2

end Db

/-! The doubling loop of `write_with` (`growReserved`).  The lemmas are named in `C02r` and `C01r`, where the layout proofs and the
region proofs use them. -/

namespace C02r
open Db

theorem growReserved_ind {P : Nat → Prop} (fuel cur need n : Nat) (h : growReserved fuel cur need = some n)
    (h0 : P cur) (hd : ∀ c, P c → P (c * 2)) : P n ∧ need ≤ n := by
  induction fuel generalizing cur with
  | zero => cases h
  | succ k ih =>
    simp only [growReserved] at h
    split at h
    · split at h
      · cases h
      · exact ih _ h (hd _ h0)
    · rename_i hle
      cases h
      exact ⟨h0, Nat.le_of_not_gt hle⟩

theorem growReserved_ge (fuel cur need n : Nat) (h : growReserved fuel cur need = some n) : cur ≤ n :=
  (growReserved_ind (P := (cur ≤ ·)) fuel cur need n h (Nat.le_refl _)
    (fun c hc => Nat.le_trans hc (Nat.le_mul_of_pos_right c (by decide)))).1

theorem growReserved_need (fuel cur need n : Nat) (h : growReserved fuel cur need = some n) : need ≤ n :=
  (growReserved_ind (P := fun _ => True) fuel cur need n h trivial (fun _ _ => trivial)).2

end C02r

namespace C01r
open Db

theorem growReserved_lt (fuel cur need n : Nat) (h : growReserved fuel cur need = some n) (hc : cur < need) : n < 2 * need := by
  induction fuel generalizing cur with
  | zero => simp [growReserved] at h
  | succ k ih =>
    unfold growReserved at h
    rw [if_pos hc] at h
    split at h
    · cases h
    · by_cases h2 : cur * 2 < need
      · exact ih _ h h2
      · -- the next round returns `cur * 2` at once, but has to be run: with no fuel left for it (`k = 0`) the loop gives up
        cases k with
        | zero => simp [growReserved] at h
        | succ j =>
          unfold growReserved at h
          rw [if_neg (by omega)] at h
          cases h; omega

/-- The loop gives up only when doubling would reach 2^64 (`checked_mul`).  While `cur < need ≤ 2^63` the double stays below
2^64, and `f` doublings suffice when `need ≤ cur * 2 ^ f`: the fuel 64 = 63 + 1 that `writeGrow` passes is enough for any
positive `cur`. -/
theorem growReserved_some (f cur need : Nat) (hc : 0 < cur) (hn : need ≤ cur * 2 ^ f) (h63 : need ≤ 2 ^ 63) :
    ∃ n, growReserved (f + 1) cur need = some n := by
  induction f generalizing cur with
  | zero =>
    unfold growReserved
    rw [if_neg (by simp at hn; omega)]; exact ⟨_, rfl⟩
  | succ k ih =>
    unfold growReserved
    by_cases h : need > cur
    · rw [if_pos h, if_neg (by omega)]
      exact ih (cur * 2) (by omega) (by rw [Nat.pow_succ] at hn; rw [Nat.mul_assoc]; rw [Nat.mul_comm 2]; exact hn)
    · rw [if_neg h]; exact ⟨_, rfl⟩

end C01r

end AnyDB
