import AnyDB.Lemmas.LayoutAcc
/-! `InF`: the cached file length is the size of the mapping, and every extent ends inside the data file. -/
namespace AnyDB.C02r
open Conc

def InL (l : List E) (n : Nat) : Prop := ∀ e ∈ l, e.1 + e.2 ≤ n

def InF (s : Db) : Prop := s.fileLen = s.mem.size ∧ InL (claimedDb s) s.mem.size

theorem seg_in (n : Nat) : Seg (fun e => e.1 + e.2 ≤ n) :=
  ⟨fun _ _ _ _ h1 _ => by simp only at *; omega, fun _ _ _ _ h2 => by simp only at *; omega⟩

theorem inL_mono (l : List E) (n m : Nat) (h : InL l n) (hm : n ≤ m) : InL l m := fun e he => Nat.le_trans (h e he) hm

theorem inf_parts (s : Db) (n : Nat) :
    InL (claimedDb s) n ↔ InL (exts s.slots) n ∧ InL s.reserved n ∧ InL s.holes n ∧ InL s.pending n :=
  all_claimed s _

theorem inf_init : InF Db.init := ⟨rfl, fun e he => by simp [claimedDb, exts, Db.init] at he⟩

theorem inE_slot (s : Db) (hi : InF s) (idx : Nat) (sl : Slot) (hs : s.slot? idx = some sl) : sl.md.start + sl.md.reserved ≤ s.mem.size :=
  hi.2 _ (extOf_mem_claimed s idx sl hs)

theorem inE_hole (s : Db) (hi : InF s) (e : E) (he : e ∈ s.holes) : e.1 + e.2 ≤ s.mem.size :=
  ((inf_parts s _).mp hi.2).2.2.1 e he

end AnyDB.C02r
