import AnyDB.Lemmas.LayoutLists
import AnyDB.Lemmas.Alloc

/-!
Bridge between the allocator lemmas (stated over `Alloc.Ext`) and the hole lists of the rawdb
model (`List (Nat × Nat)` = `(start, size)` in insertion order): the model's `prevHole`, `alErase`, `alGet`, `promoteOne`,
`promote` are the allocator's under `toExts`, and a hole split keeps the stronger invariant (`removeOrCompress_ok`).
-/
namespace AnyDB
open Alloc

def toExt (p : Nat × Nat) : Ext := ⟨p.1, p.2⟩
def toExts (l : List (Nat × Nat)) : List Ext := l.map toExt

@[simp] theorem toExt_start (p : Nat × Nat) : (toExt p).start = p.1 := rfl
@[simp] theorem toExt_size (p : Nat × Nat) : (toExt p).size = p.2 := rfl
@[simp] theorem toExt_stop (p : Nat × Nat) : (toExt p).stop = p.1 + p.2 := rfl

theorem toExt_inj {a b : Nat × Nat} (h : toExt a = toExt b) : a = b := by
  cases a; cases b; simp [toExt] at h; simp [h]

theorem mem_toExts {l : List (Nat × Nat)} {e : Ext} : e ∈ toExts l ↔ (e.start, e.size) ∈ l := by
  unfold toExts
  constructor
  · intro h
    obtain ⟨p, hp, rfl⟩ := List.mem_map.mp h
    simpa [toExt] using hp
  · intro h
    exact List.mem_map.mpr ⟨(e.start, e.size), h, rfl⟩

theorem prevHole_map (hs : List (Nat × Nat)) (s : Nat) :
    (prevHole hs s).map toExt = Alloc.prevHole (toExts hs) s := by
  induction hs with
  | nil => rfl
  | cons h t ih =>
    simp only [toExts, List.map_cons, Alloc.prevHole]
    simp only [toExts] at ih
    rw [← ih]
    simp only [prevHole]
    cases hp : prevHole t s with
    | none =>
      simp only [Option.map_none]
      by_cases hc : h.1 < s <;> simp [hc, toExt]
    | some a =>
      simp only [Option.map_some]
      by_cases hc : h.1 < s ∧ a.1 < h.1 <;> simp [hc, toExt]

theorem alErase_map (hs : List (Nat × Nat)) (s : Nat) :
    toExts (alErase hs s) = eraseHole (toExts hs) s := by
  unfold toExts alErase eraseHole
  induction hs with
  | nil => rfl
  | cons h t ih =>
    simp only [List.filter_cons, List.map_cons, toExt_start]
    split <;> simp_all

theorem alGet_map (hs : List (Nat × Nat)) (s : Nat) :
    alGet hs s = (findHole (toExts hs) s).map (·.size) := by
  unfold alGet findHole toExts
  induction hs with
  | nil => rfl
  | cons h t ih =>
    simp only [List.find?_cons, List.map_cons, toExt_start]
    split <;> simp_all [toExt]

theorem promoteOne_map (hs : List (Nat × Nat)) (p : Nat × Nat) :
    toExts (promoteOne hs p) = Alloc.promoteOne (toExts hs) (toExt p) := by
  -- `alErase_map` as it reads once `toExts` is unfolded
  have hE : ∀ l s, List.map toExt (alErase l s) = eraseHole (List.map toExt l) s := alErase_map
  unfold promoteOne Alloc.promoteOne
  simp only [toExt_start, toExt_size]
  rw [← prevHole_map]
  cases hprev : prevHole hs p.1 with
  | none =>
    simp only [Option.map_none]
    rw [alGet_map]
    cases hf : findHole (toExts hs) (p.1 + p.2) with
    | none => simp [toExts, toExt]
    | some a => simp [toExts, toExt, hE]
  | some h =>
    simp only [Option.map_some, toExt_start, toExt_size]
    by_cases hadj : h.1 + h.2 = p.1
    · simp only [hadj, if_true]
      rw [alGet_map, alErase_map]
      cases hf : findHole (eraseHole (toExts hs) h.1) (h.1 + (p.2 + h.2)) with
      | none => simp [toExts, toExt, hE]
      | some a => simp [toExts, toExt, hE]
    · simp only [hadj, if_false]
      rw [alGet_map]
      cases hf : findHole (toExts hs) (p.1 + p.2) with
      | none => simp [toExts, toExt]
      | some a => simp [toExts, toExt, hE]

theorem promote_map (pending hs : List (Nat × Nat)) :
    toExts (promote hs pending) = Alloc.promote (toExts hs) (toExts pending) := by
  induction pending generalizing hs with
  | nil => rfl
  | cons p t ih =>
    show toExts (promote (promoteOne hs p) t) = Alloc.promote (Alloc.promoteOne (toExts hs) (toExt p)) (toExts t)
    rw [← promoteOne_map]; exact ih _

/-- the invariant of the free list: positive sizes, pairwise disjoint, no two adjacent -/
def HolesOK (hs : List (Nat × Nat)) : Prop := HInv (toExts hs)

def covers (l : List (Nat × Nat)) (x : Nat) : Prop := ∃ e ∈ l, e.1 ≤ x ∧ x < e.1 + e.2

def pdisj (a b : Nat × Nat) : Prop := a.1 + a.2 ≤ b.1 ∨ b.1 + b.2 ≤ a.1

theorem covers_iff (l : List (Nat × Nat)) (x : Nat) : covers l x ↔ cov (toExts l) x := by
  unfold covers cov toExts
  constructor
  · rintro ⟨e, he, h⟩
    exact ⟨toExt e, List.mem_map_of_mem he, h⟩
  · rintro ⟨e, he, h⟩
    obtain ⟨p, hp, rfl⟩ := List.mem_map.mp he
    exact ⟨p, hp, h⟩

theorem holesOK_iff (hs : List (Nat × Nat)) :
    HolesOK hs ↔ (∀ a ∈ hs, 0 < a.2) ∧ (∀ a ∈ hs, ∀ b ∈ hs, a = b ∨ pdisj a b) ∧
      (∀ a ∈ hs, ∀ b ∈ hs, a.1 + a.2 ≠ b.1) := by
  unfold HolesOK toExts
  constructor
  · rintro ⟨hp, hd, hm⟩
    simp only [List.forall_mem_map] at hp hd hm
    exact ⟨hp, fun a ha b hb => (hd a ha b hb).imp toExt_inj id, hm⟩
  · rintro ⟨hp, hd, hm⟩
    refine ⟨?_, ?_, ?_⟩ <;> simp only [List.forall_mem_map]
    · exact hp
    · exact fun a ha b hb => (hd a ha b hb).imp (congrArg toExt) id
    · exact hm

theorem removeOrCompress_ok {hs hs' : List (Nat × Nat)} {start by_ sz : Nat}
    (hI : HolesOK hs) (hg : alGet hs start = some sz) (hb : 0 < by_)
    (h : removeOrCompress hs start by_ = .ok hs') :
    by_ ≤ sz ∧ HolesOK hs' ∧
    (∀ x, covers hs' x ↔ covers hs x ∧ ¬ (start ≤ x ∧ x < start + by_)) ∧
    (∀ q : Nat × Nat, (∀ a ∈ hs, pdisj a q) → ∀ a ∈ hs', pdisj a q) := by
  have hem := C02r.mem_of_alGet hs start sz hg
  obtain ⟨hle, hmem⟩ := mem_removeOrCompress hg h
  rw [holesOK_iff] at hI ⊢
  obtain ⟨hpos, hdj, hmg⟩ := hI
  have hoff : ∀ a ∈ hs, a.1 ≠ start → 0 < a.2 ∧ (a.1 + a.2 ≤ start ∨ start + sz ≤ a.1) := by
    intro a ha hne
    rcases hdj a ha _ hem with r | d
    · rw [r] at hne; exact absurd rfl hne
    · exact ⟨hpos a ha, d⟩
  have huniq : ∀ a ∈ hs, a.1 = start → a = (start, sz) := by
    intro a ha h1
    rcases hdj a ha _ hem with r | d
    · exact r
    · have := hpos a ha
      simp only [pdisj] at d
      omega
  refine ⟨hle, ⟨?_, ?_, ?_⟩, ?_, ?_⟩
  · intro a ha
    rcases (hmem a).mp ha with ⟨h1, _⟩ | ⟨rfl, hlt⟩
    · exact hpos a h1
    · exact Nat.sub_pos_of_lt hlt
  · intro a ha b hb'
    rcases (hmem a).mp ha with ⟨h1, n1⟩ | ⟨rfl, _⟩ <;> rcases (hmem b).mp hb' with ⟨h2, n2⟩ | ⟨rfl, _⟩
    · exact hdj a h1 b h2
    · have := hoff a h1 n1
      right; simp only [pdisj]; omega
    · have := hoff b h2 n2
      right; simp only [pdisj]; omega
    · exact Or.inl rfl
  · intro a ha b hb'
    rcases (hmem a).mp ha with ⟨h1, n1⟩ | ⟨rfl, hlt⟩ <;> rcases (hmem b).mp hb' with ⟨h2, n2⟩ | ⟨rfl, _⟩
    · exact hmg a h1 b h2
    · have := hoff a h1 n1
      omega
    · have := hmg _ hem b h2
      omega
    · omega
  · intro x
    constructor
    · rintro ⟨a, ha, hx⟩
      rcases (hmem a).mp ha with ⟨h1, n1⟩ | ⟨rfl, _⟩
      · have := hoff a h1 n1
        exact ⟨⟨a, h1, hx⟩, by omega⟩
      · simp only at hx
        exact ⟨⟨_, hem, by omega⟩, by omega⟩
    · rintro ⟨⟨a, ha, hx⟩, hnx⟩
      by_cases hae : a.1 = start
      · rw [huniq a ha hae] at hx
        exact ⟨_, (hmem _).mpr (Or.inr ⟨rfl, by omega⟩), by omega⟩
      · exact ⟨a, (hmem a).mpr (Or.inl ⟨ha, hae⟩), hx⟩
  · intro q hq a ha
    rcases (hmem a).mp ha with ⟨h1, _⟩ | ⟨rfl, _⟩
    · exact hq a h1
    · have := hq _ hem
      simp only [pdisj] at this ⊢; omega

end AnyDB
