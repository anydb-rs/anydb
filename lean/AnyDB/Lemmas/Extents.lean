/-!
Counting over lists of extents `(start, size)`: `cnt l x` = number of extents of `l` that cover byte `x`, `ind e x` = whether
`e` covers `x`.  Disjointness is `cnt ≤ 1` (`One`).  Two non-empty extents that share no byte lie one behind the other
(`apart_of_ind`); so do two different members of a list with `One` and positive sizes (`Pos`; `apart_of_mem`), which therefore
have distinct starts (`starts_differ`) and ordered ends (`stop_le`).
`ind_split`, read in either direction, is the one fact every split or merge of extents needs (`ind_adjacent`, `ind_cut`).

Two namespaces: `Conc` holds the definitions and what the model of the layout's critical sections (`Props/C10.lean`) needs of them,
`C02r` the rest (of which `Props/C10.lean` reads `ind_adjacent`, `ind_neg`, `cnt_zero_of_stops` by their full names).
-/
namespace AnyDB.Conc

abbrev E := Nat × Nat          -- (start, size)

def ind (e : E) (x : Nat) : Nat := if e.1 ≤ x ∧ x < e.1 + e.2 then 1 else 0

/-- how many extents of `l` cover byte `x` -/
def cnt : List E → Nat → Nat
  | [], _ => 0
  | e :: t, x => (if e.1 ≤ x ∧ x < e.1 + e.2 then 1 else 0) + cnt t x

theorem cnt_append (a b : List E) (x : Nat) : cnt (a ++ b) x = cnt a x + cnt b x := by
  induction a with
  | nil => simp [cnt]
  | cons e t ih => simp only [List.cons_append, cnt, ih]; omega

theorem cnt_cons (e : E) (t : List E) (x : Nat) : cnt (e :: t) x = ind e x + cnt t x := rfl

theorem ind_le_one (e : E) (x : Nat) : ind e x ≤ 1 := by
  unfold ind
  split <;> omega

theorem ind_split (a n m x : Nat) : ind (a, n + m) x = ind (a, n) x + ind (a + n, m) x := by
  unfold ind
  dsimp only
  split <;> split <;> split <;> omega

theorem cnt_perm {l l' : List E} (h : l.Perm l') (x : Nat) : cnt l x = cnt l' x := by
  induction h with
  | nil => rfl
  | cons e _ ih => rw [cnt_cons, cnt_cons, ih]
  | swap a b t =>
    simp only [cnt_cons]
    omega
  | trans _ _ ih1 ih2 => rw [ih1, ih2]

theorem cnt_erase_ind (l : List E) (e : E) (x : Nat) (h : e ∈ l) : cnt (l.erase e) x + ind e x = cnt l x := by
  rw [cnt_perm (List.perm_cons_erase h) x, cnt_cons]
  omega

theorem cnt_map_erase (regs : List (Nat × E)) (r : Nat × E) (x : Nat) (h : r ∈ regs) :
    cnt ((regs.erase r).map (·.2)) x + ind r.2 x = cnt (regs.map (·.2)) x := by
  rw [cnt_perm ((List.perm_cons_erase h).map (·.2)) x, List.map_cons, cnt_cons]
  omega

/-- a piece claimed where nothing is claimed at or beyond its start keeps `cnt ≤ 1` -/
theorem cnt_add_ind_le_one {c : List E} {a : Nat} (hf : ∀ x, a ≤ x → cnt c x = 0) (h : ∀ x, cnt c x ≤ 1) (n x : Nat) :
    cnt c x + ind (a, n) x ≤ 1 := by
  by_cases hx : a ≤ x
  · rw [hf x hx]
    exact Nat.le_trans (Nat.le_of_eq (Nat.zero_add _)) (ind_le_one (a, n) x)
  · rw [show ind (a, n) x = 0 from if_neg (fun hc => hx hc.1)]
    exact h x

end AnyDB.Conc

namespace AnyDB.C02r
open Conc

def Pos (l : List E) : Prop := ∀ e ∈ l, 0 < e.2
def One (l : List E) : Prop := ∀ x, cnt l x ≤ 1

theorem cnt_nil (x : Nat) : cnt ([] : List E) x = 0 := rfl
theorem ind_pos (a b x : Nat) (h : a ≤ x ∧ x < a + b) : ind (a, b) x = 1 := by simp [ind, h]
theorem ind_neg (a b x : Nat) (h : ¬(a ≤ x ∧ x < a + b)) : ind (a, b) x = 0 := by simp [ind, h]

theorem ind_self (e : E) (h : 0 < e.2) : ind e e.1 = 1 := by
  obtain ⟨a, b⟩ := e
  exact ind_pos a b a (by simp only at h; omega)

theorem ind_adjacent (a r n x : Nat) (h : r ≤ n) : ind (a, n) x = ind (a, r) x + ind (a + r, n - r) x := by
  rw [← ind_split, Nat.add_sub_cancel' h]

theorem ind_empty (a x : Nat) : ind (a, 0) x = 0 :=
  ind_neg a 0 x (fun h => Nat.lt_irrefl _ (Nat.lt_of_le_of_lt h.1 h.2))

theorem ind_cut (a b c x : Nat) (h1 : a ≤ b) (h2 : b ≤ c) : ind (a, c - a) x = ind (a, b - a) x + ind (b, c - b) x := by
  have h := ind_adjacent a (b - a) (c - a) x (Nat.sub_le_sub_right h2 a)
  rwa [Nat.add_sub_cancel' h1, Nat.sub_sub_sub_cancel_right h1] at h

theorem ind_le_cnt (l : List E) (e : E) (x : Nat) (h : e ∈ l) : ind e x ≤ cnt l x := by
  have := cnt_erase_ind l e x h; omega

theorem exists_cover (l : List E) (x : Nat) (h : 0 < cnt l x) : ∃ e ∈ l, ind e x = 1 := by
  induction l with
  | nil => simp [cnt] at h
  | cons a t ih =>
    rw [cnt_cons] at h
    by_cases ha : ind a x = 1
    · exact ⟨a, List.mem_cons_self .., ha⟩
    · have := ind_le_one a x
      obtain ⟨e, he, hx⟩ := ih (by omega)
      exact ⟨e, List.mem_cons_of_mem _ he, hx⟩

/-- a byte covered by `a` is covered by every list that holds all extents of `a` -/
theorem cnt_pos_of_subset {a b : List E} (h : ∀ e ∈ a, e ∈ b) (x : Nat) (hx : 0 < cnt a x) : 0 < cnt b x := by
  obtain ⟨e, he, hex⟩ := exists_cover a x hx
  have := ind_le_cnt b e x (h e he)
  omega

theorem cnt_filter_split (l : List E) (q : E → Bool) (x : Nat) :
    cnt l x = cnt (l.filter q) x + cnt (l.filter (fun e => !q e)) x := by
  induction l with
  | nil => rfl
  | cons a t ih =>
    simp only [List.filter_cons]
    cases hq : q a <;> simp only [Bool.not_true, Bool.not_false, if_true, if_false, Bool.false_eq_true, cnt_cons] <;> omega

theorem cnt_at_start (l : List E) (s : Nat) (hp : Pos l) (hs : ∀ e ∈ l, e.1 = s) : cnt l s = l.length := by
  induction l with
  | nil => rfl
  | cons a t ih =>
    have h1 : a.1 = s := hs a (List.mem_cons_self ..)
    rw [cnt_cons, List.length_cons, ← h1, ind_self a (hp a (List.mem_cons_self ..)), h1,
      ih (fun e he => hp e (List.mem_cons_of_mem _ he)) (fun e he => hs e (List.mem_cons_of_mem _ he))]
    omega

theorem two_cover (l : List E) (a b : E) (x : Nat) (ha : a ∈ l) (hb : b ∈ l) (hne : a ≠ b) : ind a x + ind b x ≤ cnt l x := by
  have h1 := cnt_erase_ind l a x ha
  have hb' : b ∈ l.erase a := (List.mem_erase_of_ne (Ne.symm hne)).mpr hb
  have h2 := cnt_erase_ind (l.erase a) b x hb'
  omega

theorem apart_of_ind (a b : E) (h : ∀ x, ind a x + ind b x ≤ 1) (pa : 0 < a.2) (pb : 0 < b.2) :
    a.1 + a.2 ≤ b.1 ∨ b.1 + b.2 ≤ a.1 := by
  obtain ⟨a1, a2⟩ := a
  obtain ⟨b1, b2⟩ := b
  by_cases hc : a1 + a2 ≤ b1 ∨ b1 + b2 ≤ a1
  · exact hc
  · have hx := h (max a1 b1)
    rw [ind_pos _ _ _ (by omega), ind_pos _ _ _ (by omega)] at hx
    omega

/-- two different extents of a list that covers no byte twice lie one behind the other -/
theorem apart_of_mem (c : List E) (ho : One c) (hp : Pos c) (a b : E) (ha : a ∈ c) (hb : b ∈ c) (hne : a ≠ b) :
    a.1 + a.2 ≤ b.1 ∨ b.1 + b.2 ≤ a.1 :=
  apart_of_ind a b (fun x => Nat.le_trans (two_cover c a b x ha hb hne) (ho x)) (hp a ha) (hp b hb)

theorem starts_differ (c : List E) (ho : One c) (hp : Pos c) (a b : E) (ha : a ∈ c) (hb : b ∈ c) (hne : a ≠ b) : a.1 ≠ b.1 := by
  have := apart_of_mem c ho hp a b ha hb hne
  have := hp a ha
  have := hp b hb
  omega

theorem stop_le (c : List E) (ho : One c) (hp : Pos c) (e y : E) (he : e ∈ c) (hy : y ∈ c) (hle : e.1 ≤ y.1) :
    e.1 + e.2 ≤ y.1 + y.2 := by
  by_cases heq : e = y
  · rw [heq]; exact Nat.le_refl _
  · have := apart_of_mem c ho hp e y he hy heq
    have := hp y hy
    omega

theorem cnt_zero_of_stops (l : List E) (x : Nat) (h : ∀ e ∈ l, e.1 + e.2 ≤ x) : cnt l x = 0 := by
  induction l with
  | nil => rfl
  | cons a t ih =>
    have := h a (List.mem_cons_self ..)
    obtain ⟨a1, a2⟩ := a
    rw [cnt_cons, ih (fun e he => h e (List.mem_cons_of_mem _ he)), ind_neg a1 a2 x (by simp only at this; omega)]

/-- no unclaimed byte below a claimed one -/
def AccL (c : List E) : Prop := ∀ x y, x ≤ y → 0 < cnt c y → 0 < cnt c x

/-- `a` is the end of everything claimed.  The second half — the byte below `a` is claimed — is what keeps the accounting when
a piece is put on top (`accL_of_top`). -/
def Top (c : List E) (a : Nat) : Prop := (∀ x, a ≤ x → cnt c x = 0) ∧ (a = 0 ∨ 0 < cnt c (a - 1))

theorem one_of_eq {c c' : List E} (he : ∀ x, cnt c' x = cnt c x) (h : One c) : One c' := fun x => by rw [he]; exact h x

theorem one_of_top {c c' : List E} {a n : Nat} (he : ∀ x, cnt c' x = cnt c x + ind (a, n) x) (ht : Top c a) (h : One c) : One c' :=
  fun x => he x ▸ cnt_add_ind_le_one ht.1 h n x

/-- `accL_of_eq`, `accL_of_top`: the two ways a move of the allocator keeps the accounting -/
theorem accL_of_eq {c c' : List E} (he : ∀ x, cnt c' x = cnt c x) (h : AccL c) : AccL c' := by
  intro x y hxy hy; rw [he] at hy ⊢; exact h x y hxy hy

theorem accL_of_top {c c' : List E} {a n : Nat} (he : ∀ x, cnt c' x = cnt c x + ind (a, n) x) (ht : Top c a)
    (h : AccL c) : AccL c' := by
  intro x y hxy hy
  rw [he] at hy ⊢
  by_cases hx : x < a
  · have : 0 < cnt c x := by
      rcases ht.2 with h0 | h1
      · omega
      · exact h x (a - 1) (by omega) h1
    omega
  · rw [ht.1 y (by omega)] at hy
    have hiy : ¬ind (a, n) y = 0 := by omega
    have : a ≤ y ∧ y < a + n := Decidable.byContradiction fun hc => hiy (ind_neg _ _ _ hc)
    rw [ind_pos a n x (by omega)]; omega

theorem claims_last_byte (c : List E) (hp : Pos c) (e : E) (he : e ∈ c) : 0 < cnt c (e.1 + e.2 - 1) := by
  have := ind_le_cnt c e (e.1 + e.2 - 1) he
  have hpe := hp e he
  obtain ⟨a, b⟩ := e
  simp only at this hpe ⊢
  rw [ind_pos _ _ _ (by omega)] at this
  omega

end AnyDB.C02r
