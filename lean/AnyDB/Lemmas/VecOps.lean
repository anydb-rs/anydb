import AnyDB.Model.Vec

/-!
The little-endian round trip (`leBytes` / `leVal`: `to_le_bytes` / `from_le_bytes`), and the small operations of the vector
model that both formats share, each analysed once so that no proof has to unfold it again: as a closed form `{ s with … }`
where the new values matter, as a frame that only names the fields that may change where they do not; either way a field the
operation leaves alone is read off by `rfl`.  `commit_eq`: with retention on, a commit is the write of the state with the
record filed (`pruned`, the directory `saveChangeFile_eq` shows `save_change_file` to leave) and the stamp set, followed on
success by taking the baseline of the next record (`rebased`).
-/
namespace AnyDB.VecM

theorem leBytes_length (w n : Nat) : (leBytes w n).length = w := by
  induction w generalizing n with
  | zero => rfl
  | succ k ih => simp [leBytes, ih]

theorem le_rt (w n : Nat) (h : n < 256 ^ w) : leVal (leBytes w n) = n := by
  induction w generalizing n with
  | zero => simp at h; subst h; rfl
  | succ k ih =>
    simp only [leBytes, leVal]
    have h1 : n / 256 < 256 ^ k := Nat.div_lt_of_lt_mul (by omega)
    rw [ih _ h1]
    have : (UInt8.ofNat (n % 256)).toNat = n % 256 := by simp
    omega

end AnyDB.VecM

namespace AnyDB.VecM.V

theorem writeHeaderIfNeeded_frame (s : V) : ∃ d m, s.writeHeaderIfNeeded = { s with diskStamp := d, hdrModified := m } := by
  unfold writeHeaderIfNeeded; split
  · exact ⟨_, _, rfl⟩
  · exact ⟨_, _, rfl⟩

theorem updateStamp_eq (s : V) (st : Nat) :
    s.updateStamp st = { s with stamp := st, hdrModified := if s.stamp = st then s.hdrModified else true } := by
  unfold updateStamp
  by_cases h : s.stamp = st
  · rw [if_pos h, if_pos h]
    subst h
    rfl
  · rw [if_neg h, if_neg h]

theorem pagesFlush_frame (s : V) : ∃ ca pd, s.pagesFlush.1 = { s with changeAt := ca, pagesDisk := pd } := by
  unfold pagesFlush; split
  · exact ⟨_, _, rfl⟩
  · split <;> exact ⟨_, _, rfl⟩

theorem pagesFlush_some (s : V) (c : Nat) (hc : s.changeAt = some c) (hle : c ≤ s.pagesDisk.length) :
    s.pagesFlush = ({ s with changeAt := none, pagesDisk := s.pagesDisk.take c ++ (s.pages.drop c).map Page.entry }, true) := by
  unfold pagesFlush
  rw [hc]
  exact if_neg (Nat.not_lt.mpr hle)

theorem truncatePushed_eq (s : V) (n : Nat) :
    s.truncatePushed n = { s with storedLen := min n s.storedLen, pushed := s.pushed.take (n - s.storedLen) } := by
  unfold truncatePushed V.len
  by_cases h1 : n ≥ s.storedLen + s.pushed.length
  · rw [if_pos h1, Nat.min_eq_right (Nat.le_trans (Nat.le_add_right _ _) h1),
      List.take_of_length_le (Nat.le_sub_of_add_le (Nat.add_comm _ _ ▸ h1))]
  · rw [if_neg h1]
    rcases Nat.lt_or_ge n s.storedLen with h | h
    · simp only [if_pos (Nat.le_of_lt h), if_pos h]
      rw [Nat.min_eq_left (Nat.le_of_lt h), Nat.sub_eq_zero_of_le (Nat.le_of_lt h), List.take_zero]
    · rw [if_neg (Nat.not_lt.mpr h), Nat.min_eq_right h]
      by_cases h2 : n ≤ s.storedLen
      · rw [if_pos h2, Nat.sub_eq_zero_of_le h2, List.take_zero]
      · rw [if_neg h2]

theorem truncate_comp (s : V) (n : Nat) (hk : s.kind = .comp) :
    s.truncate n = { s with storedLen := min n s.storedLen, pushed := s.pushed.take (n - s.storedLen) } := by
  have : s.truncate n = s.truncatePushed n := by unfold truncate; rw [hk]
  rw [this, truncatePushed_eq]

theorem truncate_raw (s : V) (n : Nat) (hk : s.kind = .raw) :
    s.truncate n = { s with holes := s.holes.filter (· < n), updated := s.updated.filter (·.1 < n),
                            pushed := s.pushed.take (n - s.storedLen), storedLen := min n s.storedLen } := by
  have : s.truncate n = (s.truncateDirtyAt n).truncatePushed n := by unfold truncate; rw [hk]
  rw [this, truncatePushed_eq]
  rfl

theorem truncate_frame (s : V) (n : Nat) :
    s.truncate n = { s with holes := (s.truncate n).holes, updated := (s.truncate n).updated,
                            pushed := s.pushed.take (n - s.storedLen), storedLen := min n s.storedLen } := by
  have hk : s.kind = .raw ∨ s.kind = .comp := by
    cases s.kind
    · exact .inl rfl
    · exact .inr rfl
  rcases hk with hk | hk
  · rw [truncate_raw s n hk]
  · rw [truncate_comp s n hk]

/-- `t` is `s` after plain edits (`push`, `truncate` on either format; `update_at`, `delete_at` on a raw vector): only the
deleted slots, the overlay, the buffer and the stored length differ, and the stored length has not grown.  What a predicate
says about the other fields carries over (`After.edited`, `Since.edited`; `CInv.edited`, `CSync.edited`, `SinceC.edited`) -/
def Edited (s t : V) : Prop :=
  t = { s with holes := t.holes, updated := t.updated, pushed := t.pushed, storedLen := t.storedLen } ∧ t.storedLen ≤ s.storedLen

theorem edited_push (s : V) (v : Nat) : Edited s (s.push v) := ⟨rfl, Nat.le_refl _⟩

theorem edited_truncate (s : V) (n : Nat) : Edited s (s.truncate n) := by
  rw [truncate_frame]
  exact ⟨rfl, Nat.min_le_right _ _⟩

theorem write_raw (s : V) (cs : List Nat) (hk : s.kind = .raw) : s.write cs = s.writeRaw := by
  unfold write
  rw [hk]

theorem write_comp (s : V) (cs : List Nat) (hk : s.kind = .comp) : s.write cs = s.writeComp cs := by
  unfold write
  rw [hk]

theorem realStoredLen_comp (s : V) (hk : s.kind = .comp) : s.realStoredLen = pagesStoredLen s.pages s.perPage := by
  unfold realStoredLen
  rw [hk]

theorem _root_.AnyDB.C03c.pv_nil : pagesValues [] = [] := rfl
theorem _root_.AnyDB.C03c.pv_cons (p : Page) (t : List Page) : pagesValues (p :: t) = p.content ++ pagesValues t :=
  List.flatMap_cons
theorem _root_.AnyDB.C03c.pv_append (a b : List Page) : pagesValues (a ++ b) = pagesValues a ++ pagesValues b :=
  List.flatMap_append

theorem collectStoredComp_eq (s : V) (a b : Nat) :
    s.collectStoredComp a b = ((pagesValues s.pages).drop a).take (min b (pagesStoredLen s.pages s.perPage) - a) := by
  unfold collectStoredComp
  by_cases h : a ≥ min b (pagesStoredLen s.pages s.perPage)
  · rw [if_pos h, Nat.sub_eq_zero_of_le h, List.take_zero]
  · rw [if_neg h]

theorem items_comp (s : V) (hk : s.kind = .comp) :
    s.items = (((pagesValues s.pages).take s.storedLen ++ List.replicate (s.storedLen - (pagesValues s.pages).length) garbage
      ++ s.pushed).map some, decide ((pagesValues s.pages).length < s.storedLen)) := by
  unfold items
  rw [hk]
  simp only [List.length_take]
  have e1 : s.storedLen - min s.storedLen (pagesValues s.pages).length = s.storedLen - (pagesValues s.pages).length := by omega
  have e2 : min s.storedLen (pagesValues s.pages).length < s.storedLen ↔ (pagesValues s.pages).length < s.storedLen := by omega
  rw [e1, decide_eq_decide.mpr e2]

theorem applyRollback_eq (s : V) (st sl : Nat) (p : List Nat) :
    s.applyRollback st sl p = { s with stamp := st, hdrModified := (if s.stamp = st then s.hdrModified else true), storedLen := sl, prevStoredLen := sl, pushed := p, prevPushed := p } := by
  unfold applyRollback
  rw [updateStamp_eq]

/-- the change directory after filing the record `d` under `st` (`save_change_file`): the records below `st`, the oldest
beyond `keep - 1` dropped, and the new record appended -/
def pruned (s : V) (st : Nat) (d : List UInt8) : List (Nat × List UInt8) :=
  (s.changes.filter (·.1 < st)).drop ((s.changes.filter (·.1 < st)).length - (s.keep - 1)) ++ [(st, d)]

theorem saveChangeFile_eq (s : V) (st : Nat) (d : List UInt8) :
    s.saveChangeFile st d = { s with changes := pruned s st d, dirExists := true } := rfl

theorem mem_pruned (s : V) (st : Nat) (d : List UInt8) (c : Nat × List UInt8) (h : c ∈ pruned s st d) :
    (c ∈ s.changes ∧ c.1 < st) ∨ c = (st, d) := by
  unfold pruned at h
  rcases List.mem_append.mp h with h | h
  · have := List.mem_filter.mp (List.mem_of_mem_drop h)
    exact Or.inl ⟨this.1, of_decide_eq_true this.2⟩
  · exact Or.inr (List.mem_singleton.mp h)

theorem find_pruned (s : V) (st : Nat) (d : List UInt8) : (pruned s st d).find? (·.1 == st) = some (st, d) := by
  unfold pruned
  rw [List.find?_append, List.find?_eq_none.mpr, Option.none_or]
  · exact List.find?_cons_of_pos (beq_self_eq_true st)
  · intro x hx
    have := of_decide_eq_true (List.mem_filter.mp (List.mem_of_mem_drop hx)).2
    simp only [beq_iff_eq]
    omega

theorem undo_refused (s : V) (bytes : List UInt8) (e : EK) (h : parseChange s.kind s.sz bytes = .error e) :
    s.undo bytes = (s, .err e) := by
  unfold undo
  rw [h]

/-- the baseline of the next record, taken after a successful write -/
def rebased (w : V) : V :=
  match w.kind with
  | .raw => { w with prevStoredLen := w.storedLen, prevPushed := [], prevHoles := w.holes, prevUpdated := [] }
  | .comp => { w with prevStoredLen := w.storedLen, prevPushed := [] }

theorem rebased_raw (w : V) (hk : w.kind = .raw) :
    rebased w = { w with prevStoredLen := w.storedLen, prevPushed := [], prevHoles := w.holes, prevUpdated := [] } := by
  unfold rebased
  split
  · rfl
  · next h => exact absurd (hk.symm.trans h) nofun

theorem rebased_comp (w : V) (hk : w.kind = .comp) : rebased w = { w with prevStoredLen := w.storedLen, prevPushed := [] } := by
  unfold rebased
  split
  · next h => exact absurd (hk.symm.trans h) nofun
  · rfl

theorem commit_eq (s : V) (st : Nat) (cs : List Nat) (hkeep : s.keep ≠ 0) :
    ∃ s1 : V, (∃ hm, s1 = { s with stamp := st, hdrModified := hm, oob := s.oob || s.serializeChanges.2,
                                    changes := pruned s st s.serializeChanges.1, dirExists := true }) ∧
      s.commit st cs = match (s1.write cs).2 with
        | .okB b => (rebased (s1.write cs).1, .okB b)
        | o => ((s1.write cs).1, o) := by
  -- the state the stamp is set on is `s` with the read flag and the record filed: `saveChangeFile_eq`, which holds by
  -- definition, so the closed form of `updateStamp` is already the one claimed
  refine ⟨_, ⟨_, updateStamp_eq (({ s with oob := s.oob || s.serializeChanges.2 } : V).saveChangeFile st s.serializeChanges.1) st⟩, ?_⟩
  unfold V.commit V.stampedWrite rebased
  rw [if_neg hkeep]
  simp only []
  generalize ((({ s with oob := s.oob || s.serializeChanges.2 } : V).saveChangeFile st s.serializeChanges.1).updateStamp st).write cs = r
  cases r.2 <;> try rfl
  cases r.1.kind <;> rfl

end AnyDB.VecM.V
