import AnyDB.Model.Vec

/-!
The sorted map (`BTreeMap<usize,T>`: `mapGet`, `mapInsert`, `mapErase`) and the sorted set (`BTreeSet<usize>`: `setInsert`)
of the vector model: what a lookup returns after each operation, after a run of insertions (`putAll`, `mapGet_putAll`) and in
a table built from its keys (`mapGet_map_pairs`); that insertion keeps the keys sorted (`mapInsert_sorted`) and that
inserting sorted keys one by one appends them (`foldl_setInsert_sorted`); the lookup in the change directory
(`find_of_distinct`); and the two shapes of fold the model is written in, the collecting one of its read paths
(`foldl_collect`) and the one that stops at the first refusal (`foldl_error`, `foldl_ok_inv`).
-/
namespace AnyDB.C03w
open VecM

/-- keys of the overlay are pairwise different (it is a BTreeMap) -/
def KeysDistinct (m : List (Nat × Nat)) : Prop := m.Pairwise (fun a b => a.1 ≠ b.1)

def KeysSorted (m : List (Nat × Nat)) : Prop := m.Pairwise (fun a b => a.1 < b.1)

theorem sorted_distinct (m : List (Nat × Nat)) (h : KeysSorted m) : KeysDistinct m :=
  List.Pairwise.imp (fun hab => Nat.ne_of_lt hab) h

theorem mapGet_cons (k v : Nat) (t : List (Nat × Nat)) (i : Nat) :
    mapGet ((k, v) :: t) i = if k = i then some v else mapGet t i := by
  unfold mapGet
  by_cases h : k = i
  · rw [if_pos h, List.find?_cons_of_pos (by simpa using h)]
    rfl
  · rw [if_neg h, List.find?_cons_of_neg (by simpa using h)]

theorem mapGet_none_of_not_mem (t : List (Nat × Nat)) (k : Nat) (h : ∀ a ∈ t, a.1 ≠ k) : mapGet t k = none := by
  induction t with
  | nil => rfl
  | cons a r ih =>
    obtain ⟨a1, a2⟩ := a
    rw [mapGet_cons, if_neg (h (a1, a2) (List.mem_cons_self ..))]
    exact ih (fun b hb => h b (List.mem_cons_of_mem _ hb))

end AnyDB.C03w

namespace AnyDB.C04r
open VecM

theorem mem_of_mapGet (m : List (Nat × Nat)) (k v : Nat) (h : mapGet m k = some v) : (k, v) ∈ m := by
  induction m with
  | nil => cases h
  | cons a t ih =>
    obtain ⟨a1, a2⟩ := a
    rw [C03w.mapGet_cons] at h
    by_cases e : a1 = k
    · rw [if_pos e] at h
      cases h
      subst e
      exact List.mem_cons_self ..
    · rw [if_neg e] at h
      exact List.mem_cons_of_mem _ (ih h)

end AnyDB.C04r

namespace AnyDB.C04c
open VecM

theorem mapGet_nil (i : Nat) : mapGet ([] : List (Nat × Nat)) i = none := rfl

end AnyDB.C04c

namespace AnyDB.VecM
open C03w

theorem mem_keys_of_mapGet (m : List (Nat × Nat)) (k v : Nat) (h : mapGet m k = some v) : k ∈ m.map (·.1) :=
  List.mem_map.mpr ⟨(k, v), C04r.mem_of_mapGet m k v h, rfl⟩

theorem mapGet_filter (p : Nat → Bool) (m : List (Nat × Nat)) (i : Nat) :
    mapGet (m.filter (fun kv => p kv.1)) i = if p i then mapGet m i else none := by
  induction m with
  | nil => cases p i <;> rfl
  | cons a t ih =>
    obtain ⟨k, v⟩ := a
    by_cases hp : p k = true
    · rw [List.filter_cons_of_pos (p := fun (kv : Nat × Nat) => p kv.1) (a := (k, v)) hp, mapGet_cons, mapGet_cons, ih]
      by_cases hk : k = i
      · rw [if_pos hk, if_pos hk, if_pos (hk ▸ hp)]
      · rw [if_neg hk, if_neg hk]
    · rw [List.filter_cons_of_neg (p := fun (kv : Nat × Nat) => p kv.1) (a := (k, v)) hp, mapGet_cons, ih]
      by_cases hk : k = i
      · rw [if_neg (hk ▸ hp), if_neg (hk ▸ hp)]
      · rw [if_neg hk]

theorem mapGet_mapErase (m : List (Nat × Nat)) (i j : Nat) :
    mapGet (mapErase m i) j = if j = i then none else mapGet m j := by
  rw [mapErase, mapGet_filter (· != i) m j]
  by_cases h : j = i
  · rw [if_pos h, if_neg (by simp [h])]
  · rw [if_neg h, if_pos (by simp [h])]

theorem mapGet_filter_lt (m : List (Nat × Nat)) (n i : Nat) :
    mapGet (m.filter (fun kv => decide (kv.1 < n))) i = if i < n then mapGet m i else none := by
  rw [mapGet_filter (fun k => decide (k < n)) m i]
  by_cases h : i < n
  · rw [if_pos h, if_pos (decide_eq_true h)]
  · rw [if_neg h, if_neg (by simp [h])]

theorem mapGet_mapInsert (m : List (Nat × Nat)) (k v j : Nat) :
    mapGet (mapInsert m k v) j = if k = j then some v else mapGet m j := by
  induction m with
  | nil => rw [mapInsert, mapGet_cons]
  | cons a t ih =>
    obtain ⟨a1, a2⟩ := a
    rw [mapInsert]
    by_cases h1 : k < a1
    · rw [if_pos h1, mapGet_cons]
    · rw [if_neg h1]
      by_cases h2 : k = a1
      · subst h2
        rw [if_pos rfl, mapGet_cons, mapGet_cons]
        by_cases h3 : k = j
        · rw [if_pos h3, if_pos h3]
        · rw [if_neg h3, if_neg h3, if_neg h3]
      · rw [if_neg h2, mapGet_cons, mapGet_cons, ih]
        by_cases h3 : a1 = j
        · rw [if_pos h3, if_pos h3, if_neg (fun e => h2 (e.trans h3.symm))]
        · rw [if_neg h3, if_neg h3]

theorem mem_mapInsert (m : List (Nat × Nat)) (k v : Nat) (a : Nat × Nat) (h : a ∈ mapInsert m k v) : a = (k, v) ∨ a ∈ m := by
  induction m with
  | nil => exact Or.inl (List.mem_singleton.mp h)
  | cons x t ih =>
    obtain ⟨x1, x2⟩ := x
    rw [mapInsert] at h
    by_cases h1 : k < x1
    · rw [if_pos h1] at h
      exact List.mem_cons.mp h
    · rw [if_neg h1] at h
      by_cases h2 : k = x1
      · rw [if_pos h2] at h
        exact (List.mem_cons.mp h).imp_right (List.mem_cons_of_mem _)
      · rw [if_neg h2] at h
        rcases List.mem_cons.mp h with h3 | h3
        · exact Or.inr (h3 ▸ List.mem_cons_self ..)
        · exact (ih h3).imp_right (List.mem_cons_of_mem _)

theorem mapInsert_sorted (m : List (Nat × Nat)) (k v : Nat) (h : KeysSorted m) : KeysSorted (mapInsert m k v) := by
  induction m with
  | nil => exact List.pairwise_singleton ..
  | cons x t ih =>
    obtain ⟨x1, x2⟩ := x
    obtain ⟨hx, ht⟩ := List.pairwise_cons.mp h
    rw [mapInsert]
    by_cases h1 : k < x1
    · rw [if_pos h1]
      refine List.pairwise_cons.mpr ⟨fun a ha => ?_, h⟩
      rcases List.mem_cons.mp ha with h3 | h3
      · rw [h3]
        exact h1
      · exact Nat.lt_trans h1 (hx a h3)
    · rw [if_neg h1]
      by_cases h2 : k = x1
      · rw [if_pos h2, h2]
        exact List.pairwise_cons.mpr ⟨hx, ht⟩
      · rw [if_neg h2]
        refine List.pairwise_cons.mpr ⟨fun a ha => ?_, ih ht⟩
        rcases mem_mapInsert t k v a ha with h3 | h3
        · rw [h3]
          exact Nat.lt_of_le_of_ne (Nat.le_of_not_lt h1) (fun e => h2 e.symm)
        · exact hx a h3

/-- the shape of a change record's modification table and of its truncated tail: keys paired with a function of the key
(this lemma and the next two) -/
theorem zip_map_self (l : List Nat) (g : Nat → Nat) : l.zip (l.map g) = l.map (fun k => (k, g k)) := by
  induction l with
  | nil => rfl
  | cons a t ih => simp [ih]

theorem mapGet_map_pairs (l : List Nat) (g : Nat → Nat) (k : Nat) :
    mapGet (l.map (fun k => (k, g k))) k = if k ∈ l then some (g k) else none := by
  induction l with
  | nil => rfl
  | cons a t ih =>
    rw [List.map_cons, mapGet_cons, ih]
    by_cases h : a = k
    · subst h
      rw [if_pos rfl, if_pos (List.mem_cons_self ..)]
    · rw [if_neg h]
      by_cases hm : k ∈ t
      · rw [if_pos hm, if_pos (List.mem_cons_of_mem _ hm)]
      · rw [if_neg hm, if_neg (fun hc => (List.mem_cons.mp hc).elim (fun e => h e.symm) hm)]

theorem keysDistinct_map_pairs (l : List Nat) (g : Nat → Nat) (h : l.Pairwise (· < ·)) :
    KeysDistinct (l.map (fun k => (k, g k))) :=
  List.pairwise_map.mpr (h.imp Nat.ne_of_lt)

/-- the shape of the two replays of the raw undo (truncated tail, recorded modifications) -/
def putAll (u : List (Nat × Nat)) (l : List (Nat × Nat)) : List (Nat × Nat) := l.foldl (fun u kv => mapInsert u kv.1 kv.2) u

theorem mapGet_putAll (u l : List (Nat × Nat)) (hd : KeysDistinct l) (i : Nat) :
    mapGet (putAll u l) i = match mapGet l i with | some v => some v | none => mapGet u i := by
  unfold putAll
  induction l generalizing u with
  | nil => rfl
  | cons kv t ih =>
    obtain ⟨k, v⟩ := kv
    obtain ⟨h1, h2⟩ := List.pairwise_cons.mp hd
    rw [List.foldl_cons, ih _ h2, mapGet_cons]
    by_cases hki : k = i
    · subst hki
      rw [mapGet_none_of_not_mem t k (fun a ha => (h1 a ha).symm), if_pos rfl, mapGet_mapInsert, if_pos rfl]
    · rw [if_neg hki]
      cases mapGet t i with
      | some w => rfl
      | none => exact (mapGet_mapInsert ..).trans (if_neg hki)

theorem mem_filter_ne (l : List Nat) (i j : Nat) (hj : j ≠ i) : j ∈ l.filter (· != i) ↔ j ∈ l := by
  simp [List.mem_filter, hj]

theorem mem_setInsert (l : List Nat) (x j : Nat) : j ∈ setInsert l x ↔ j ∈ l ∨ j = x := by
  induction l with
  | nil => rw [setInsert, List.mem_singleton, List.mem_nil_iff, false_or]
  | cons a t ih =>
    rw [setInsert]
    by_cases h1 : x < a
    · rw [if_pos h1, List.mem_cons, Or.comm]
    · rw [if_neg h1]
      by_cases h2 : x = a
      · rw [if_pos h2, h2]
        exact ⟨Or.inl, fun h => h.elim id (fun e => e ▸ List.mem_cons_self ..)⟩
      · rw [if_neg h2, List.mem_cons, ih, List.mem_cons, or_assoc]

theorem setInsert_append (acc : List Nat) (x : Nat) (h : ∀ a ∈ acc, a < x) : setInsert acc x = acc ++ [x] := by
  induction acc with
  | nil => rfl
  | cons a t ih =>
    have ha : a < x := h a (List.mem_cons_self ..)
    rw [setInsert, if_neg (Nat.lt_asymm ha), if_neg (Nat.ne_of_gt ha), ih (fun b hb => h b (List.mem_cons_of_mem _ hb)),
      List.cons_append]

theorem foldl_setInsert_sorted (acc l : List Nat) (hl : l.Pairwise (· < ·)) (ha : ∀ a ∈ acc, ∀ b ∈ l, a < b) :
    l.foldl setInsert acc = acc ++ l := by
  induction l generalizing acc with
  | nil => rw [List.foldl_nil, List.append_nil]
  | cons x t ih =>
    obtain ⟨hx, ht⟩ := List.pairwise_cons.mp hl
    rw [List.foldl_cons, setInsert_append acc x (fun a h => ha a h x (List.mem_cons_self ..)), ih (acc ++ [x]) ht,
      List.append_assoc, List.singleton_append]
    intro a h b hb
    rcases List.mem_append.mp h with h1 | h1
    · exact ha a h1 b (List.mem_cons_of_mem _ hb)
    · rw [List.mem_singleton.mp h1]
      exact hx b hb

theorem find_of_distinct {β : Type} (l : List (Nat × β)) (x : Nat × β) (hd : l.Pairwise (fun a b => a.1 ≠ b.1)) (hx : x ∈ l) :
    l.find? (·.1 == x.1) = some x := by
  induction l with
  | nil => cases hx
  | cons a t ih =>
    simp only [List.pairwise_cons] at hd
    simp only [List.mem_cons] at hx
    rcases hx with rfl | hx
    · simp
    · have hne : a.1 ≠ x.1 := hd.1 x hx
      rw [List.find?_cons_of_neg (by simpa using hne)]
      exact ih hd.2 hx

/-- the shape of `collect_stored_range`, of the value table of a change record, of `collect_holed` and of the range reads
of a clone -/
theorem foldl_collect {α β : Type} (l : List β) (f : List α × Bool → β → List α × Bool) (g : β → α) (b : β → Bool)
    (hf : ∀ acc x, f acc x = (acc.1 ++ [g x], acc.2 || b x)) (acc : List α × Bool) :
    l.foldl f acc = (acc.1 ++ l.map g, acc.2 || l.any b) := by
  induction l generalizing acc with
  | nil => simp
  | cons x t ih =>
    rw [List.foldl_cons, ih, hf, List.map_cons, List.any_cons, List.append_assoc, Bool.or_assoc]
    rfl

/-- one turn of the folds that take a slot from the previous overlay, else from the region, in the form `foldl_collect` asks for -/
theorem collect_step (o : Option Nat) (r : Nat × Bool) (acc : List Nat × Bool) :
    (match o with
      | some v => (acc.1 ++ [v], acc.2)
      | none => (acc.1 ++ [r.1], acc.2 || r.2)) = (acc.1 ++ [o.getD r.1], acc.2 || (o.isNone && r.2)) := by
  cases o with
  | some v => rw [Option.getD_some, Option.isNone_some, Bool.false_and, Bool.or_false]
  | none => rw [Option.getD_none, Option.isNone_none, Bool.true_and]

/-- the shape of the overlay writes of `write()` -/
theorem foldl_error {ε α β : Type} (f : Except ε α → β → Except ε α) (hf : ∀ e x, f (.error e) x = .error e) (l : List β) (e : ε) :
    l.foldl f (.error e) = .error e := by
  induction l with
  | nil => rfl
  | cons x t ih => rw [List.foldl_cons, hf, ih]

/-- the fold that stops at the first refusal keeps an invariant of the ok states -/
theorem foldl_ok_inv {ε α β : Type} (f : Except ε α → β → Except ε α) (hf : ∀ e x, f (.error e) x = .error e) (P : α → Prop)
    (hstep : ∀ b x c, P b → f (.ok b) x = .ok c → P c) (l : List β) (a r : α) (ha : P a) (h : l.foldl f (.ok a) = .ok r) : P r := by
  induction l generalizing a with
  | nil => cases h; exact ha
  | cons x t ih =>
    rw [List.foldl_cons] at h
    cases hx : f (.ok a) x with
    | error e => rw [hx, foldl_error f hf] at h; cases h
    | ok b => rw [hx] at h; exact ih b (hstep a x b ha hx) h

end AnyDB.VecM
