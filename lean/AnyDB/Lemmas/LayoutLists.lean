import AnyDB.Model.Rawdb
import AnyDB.Lemmas.Extents
/-!
The list functions of the layout (`Model/Rawdb.lean` before `Db`): `ceilPage`, the association lists (`alGet`, `alErase`,
`sortedInsert`, `lastOf`), `removeOrCompress` as a table, the best-fit scan (`Best`, `bestFit_some`, `bestFit_none`), and
`promoteOne` cut into its two halves (`joinLeft`, `joinRight`).  No database state occurs here: the counting and allocator lemmas
need no more.
-/
namespace AnyDB

theorem le_ceilPage (n : Nat) : n ≤ ceilPage n := by
  unfold ceilPage; simp only [Gen.PAGE_SIZE]; omega

theorem ceilPage_mod (n : Nat) : ceilPage n % Gen.PAGE_SIZE = 0 := by
  unfold ceilPage; exact Nat.mul_mod_left _ _

/-- `ceilPage n` is the least multiple of the page size at or above `n` -/
theorem C05r.ceil_le_reserved (len reserved : Nat) (h1 : len ≤ reserved) (h2 : reserved % Gen.PAGE_SIZE = 0) : ceilPage len ≤ reserved := by
  unfold ceilPage; simp only [Gen.PAGE_SIZE] at *; omega

theorem mem_of_mem_sortedInsert (l : List (Nat × Nat)) (k v : Nat) (x : Nat × Nat) (h : x ∈ sortedInsert l k v) :
    x = (k, v) ∨ x ∈ l := by
  induction l with
  | nil => exact Or.inl (List.mem_singleton.mp h)
  | cons a t ih =>
    obtain ⟨a1, a2⟩ := a
    simp only [sortedInsert] at h
    split at h
    · rcases List.mem_cons.mp h with h | h
      · exact Or.inl h
      · exact Or.inr h
    · split at h
      · rcases List.mem_cons.mp h with h | h
        · exact Or.inl h
        · exact Or.inr (List.mem_cons_of_mem _ h)
      · rcases List.mem_cons.mp h with h | h
        · exact Or.inr (h ▸ List.mem_cons_self ..)
        · rcases ih h with h' | h'
          · exact Or.inl h'
          · exact Or.inr (List.mem_cons_of_mem _ h')

theorem removeOrCompress_spec {holes : List (Nat × Nat)} {start by_ : Nat} {r : Except ErrKind (List (Nat × Nat))}
    (h : removeOrCompress holes start by_ = r) :
    (alGet holes start = none ∧ r = .ok holes) ∨
    ∃ size, alGet holes start = some size ∧
      ((size = by_ ∧ r = .ok (alErase holes start)) ∨
       (by_ < size ∧ r = .ok (alErase holes start ++ [(start + by_, size - by_)])) ∨
       (size < by_ ∧ r = .error .holeTooSmall)) := by
  unfold removeOrCompress at h
  cases hg : alGet holes start with
  | none => rw [hg] at h; exact Or.inl ⟨rfl, h.symm⟩
  | some size =>
    rw [hg] at h
    refine Or.inr ⟨size, rfl, ?_⟩
    simp only [] at h
    by_cases h1 : size = by_
    · rw [if_pos h1] at h; exact Or.inl ⟨h1, h.symm⟩
    · rw [if_neg h1] at h
      by_cases h2 : size > by_
      · rw [if_pos h2] at h; exact Or.inr (Or.inl ⟨h2, h.symm⟩)
      · rw [if_neg h2] at h; exact Or.inr (Or.inr ⟨by omega, h.symm⟩)

theorem removeOrCompress_err {hs : List (Nat × Nat)} {a b : Nat} {e : ErrKind}
    (h : removeOrCompress hs a b = .error e) : e = .holeTooSmall := by
  rcases removeOrCompress_spec h with ⟨_, e'⟩ | ⟨_, _, ⟨_, e'⟩ | ⟨_, e'⟩ | ⟨_, e'⟩⟩
  · cases e'
  · cases e'
  · cases e'
  · cases e'; rfl

theorem removeOrCompress_ok_of_le (holes : List (Nat × Nat)) (start by_ size : Nat) (hg : alGet holes start = some size)
    (hle : by_ ≤ size) : ∃ hs, removeOrCompress holes start by_ = .ok hs := by
  rcases removeOrCompress_spec (rfl : removeOrCompress holes start by_ = _) with ⟨_, e⟩ | ⟨sz, hg', ⟨_, e⟩ | ⟨_, e⟩ | ⟨hlt, _⟩⟩
  · exact ⟨_, e⟩
  · exact ⟨_, e⟩
  · exact ⟨_, e⟩
  · rw [hg] at hg'; cases hg'; omega

theorem C02r.mem_of_alGet (l : List (Nat × Nat)) (s sz : Nat) (h : alGet l s = some sz) : (s, sz) ∈ l := by
  unfold alGet at h
  cases hf : l.find? (fun a => a.1 == s) with
  | none => simp [hf] at h
  | some a =>
    have hm := List.mem_of_find?_eq_some hf
    have hp := List.find?_some hf
    simp only [hf, Option.map_some, Option.some.injEq] at h
    simp only [beq_iff_eq] at hp h
    rw [← hp, ← h]; exact hm

/-- the converse, where the key occurs once -/
theorem C02r.alGet_of_unique {l : List (Nat × Nat)} {k v : Nat} (hm : (k, v) ∈ l) (hu : ∀ v', (k, v') ∈ l → v' = v) :
    alGet l k = some v := by
  unfold alGet
  cases hf : l.find? (fun a => a.1 == k) with
  | none => exact absurd (List.find?_eq_none.mp hf (k, v) hm) (by simp)
  | some a =>
    obtain ⟨a1, a2⟩ := a
    have hk : a1 = k := by simpa using List.find?_some hf
    subst hk
    rw [Option.map_some, hu a2 (List.mem_of_find?_eq_some hf)]

theorem mem_alErase {hs : List (Nat × Nat)} {s : Nat} {x : Nat × Nat} :
    x ∈ alErase hs s ↔ x ∈ hs ∧ x.1 ≠ s := by
  simp [alErase]

theorem mem_removeOrCompress {hs hs' : List (Nat × Nat)} {start by_ sz : Nat} (hg : alGet hs start = some sz)
    (h : removeOrCompress hs start by_ = .ok hs') :
    by_ ≤ sz ∧ ∀ a, a ∈ hs' ↔ (a ∈ hs ∧ a.1 ≠ start) ∨ (a = (start + by_, sz - by_) ∧ by_ < sz) := by
  rcases removeOrCompress_spec h with ⟨hn, _⟩ | ⟨sz', hg', ⟨heq, e⟩ | ⟨hgt, e⟩ | ⟨_, e⟩⟩
  · rw [hg] at hn; cases hn
  · cases hg.symm.trans hg'
    cases e
    exact ⟨Nat.le_of_eq heq.symm, fun a => by rw [mem_alErase]; exact ⟨Or.inl, fun h => h.elim id (fun h => by omega)⟩⟩
  · cases hg.symm.trans hg'
    cases e
    refine ⟨Nat.le_of_lt hgt, fun a => ?_⟩
    rw [List.mem_append, mem_alErase, List.mem_singleton]
    exact ⟨fun h => h.imp id (fun h => ⟨h, hgt⟩), fun h => h.imp id (·.1)⟩
  · cases e

/-- what `find_smallest_adequate_hole` holds after it has scanned `l`: nothing while no hole of `l` is adequate, else an
adequate hole of `l` than which no adequate one is smaller -/
def Best (need : Nat) (l : List (Nat × Nat)) : Option (Nat × Nat) → Prop
  | none => ∀ h ∈ l, h.2 < need
  | some b => b ∈ l ∧ need ≤ b.2 ∧ ∀ h ∈ l, need ≤ h.2 → b.2 ≤ h.2

theorem best_step {need : Nat} {l : List (Nat × Nat)} {acc : Option (Nat × Nat)} (x : Nat × Nat) (h : Best need l acc) :
    Best need (l ++ [x]) (bestFitStep need acc x) := by
  have hmem : ∀ {y}, y ∈ l ++ [x] → y ∈ l ∨ y = x := fun hy => by simpa using hy
  have hx : x ∈ l ++ [x] := by simp
  unfold bestFitStep
  cases acc with
  | none =>
    split
    · intro y hy
      rcases hmem hy with hy | rfl
      · exact h y hy
      · assumption
    · refine ⟨hx, by omega, fun y hy hn => ?_⟩
      rcases hmem hy with hy | rfl
      · have := h y hy; omega
      · exact Nat.le_refl _
  | some b =>
    obtain ⟨h1, h2, h3⟩ := h
    have old : ∀ y ∈ l ++ [x], need ≤ y.2 → y ≠ x → b.2 ≤ y.2 := fun y hy hn hne =>
      (hmem hy).elim (fun hy => h3 y hy hn) (fun e => absurd e hne)
    split
    · exact ⟨List.mem_append_left _ h1, h2, fun y hy hn => old y hy hn (by rintro rfl; omega)⟩
    · simp only []
      split
      · refine ⟨hx, by omega, fun y hy hn => ?_⟩
        rcases hmem hy with hy | rfl
        · have := h3 y hy hn; omega
        · exact Nat.le_refl _
      · refine ⟨List.mem_append_left _ h1, h2, fun y hy hn => ?_⟩
        rcases hmem hy with hy | rfl
        · exact h3 y hy hn
        · omega

theorem best_fold (need : Nat) (hs : List (Nat × Nat)) : ∀ l acc, Best need l acc →
    Best need (l ++ hs) (hs.foldl (bestFitStep need) acc) := by
  induction hs with
  | nil => intro l acc h; simpa using h
  | cons x t ih =>
    intro l acc h
    rw [List.foldl_cons, List.append_cons]
    exact ih _ _ (best_step x h)

theorem bestFit_some {hs : List (Nat × Nat)} {need s : Nat} (h : bestFit hs need = some s) :
    ∃ b ∈ hs, b.1 = s ∧ need ≤ b.2 ∧ ∀ h ∈ hs, need ≤ h.2 → b.2 ≤ h.2 := by
  have sp := best_fold need hs [] none (fun _ h => nomatch h)
  unfold bestFit at h
  cases hr : hs.foldl (bestFitStep need) none with
  | none => simp [hr] at h
  | some b =>
    rw [hr, List.nil_append] at sp
    exact ⟨b, sp.1, by simpa [hr] using h, sp.2⟩

/-- so the file grows only when no hole is large enough -/
theorem bestFit_none {hs : List (Nat × Nat)} {need : Nat} (h : bestFit hs need = none) :
    ∀ b ∈ hs, b.2 < need := by
  have sp := best_fold need hs [] none (fun _ h => nomatch h)
  unfold bestFit at h
  cases hr : hs.foldl (bestFitStep need) none with
  | none => rw [hr, List.nil_append] at sp; exact sp
  | some b => simp [hr] at h

namespace C02r
open Conc

theorem lastOf_none (l : List E) (h : lastOf l = none) : l = [] := by
  cases l with
  | nil => rfl
  | cons a t =>
    simp only [lastOf] at h
    split at h
    · cases h
    · split at h
      · cases h
      · cases h

theorem lastOf_spec (l : List E) (y : E) (h : lastOf l = some y) : y ∈ l ∧ ∀ e ∈ l, e.1 ≤ y.1 := by
  induction l generalizing y with
  | nil => simp [lastOf] at h
  | cons a t ih =>
    simp only [lastOf] at h
    cases ht : lastOf t with
    | none =>
      simp only [ht] at h
      cases h
      rw [lastOf_none t ht]
      exact ⟨List.mem_cons_self .., by intro e he; simp at he; rw [he]; exact Nat.le_refl _⟩
    | some z =>
      simp only [ht] at h
      obtain ⟨i1, i2⟩ := ih z ht
      split at h
      · cases h
        exact ⟨List.mem_cons_of_mem _ i1, by
          intro e he
          rcases List.mem_cons.mp he with h1 | h1
          · rw [h1]; omega
          · exact i2 e h1⟩
      · cases h
        exact ⟨List.mem_cons_self .., by
          intro e he
          rcases List.mem_cons.mp he with h1 | h1
          · rw [h1]; exact Nat.le_refl _
          · have := i2 e h1; omega⟩

theorem mem_of_prevHole (hs : List E) (s : Nat) (h : E) (e : prevHole hs s = some h) : h ∈ hs := by
  induction hs generalizing h with
  | nil => cases e
  | cons a t ih =>
    unfold prevHole at e
    cases hp : prevHole t s with
    | none =>
      rw [hp] at e
      simp only [] at e
      by_cases hc : a.1 < s
      · rw [if_pos hc] at e; cases e; exact List.mem_cons_self ..
      · rw [if_neg hc] at e; cases e
    | some b =>
      rw [hp] at e
      simp only [] at e
      by_cases hc : a.1 < s ∧ b.1 < a.1
      · rw [if_pos hc] at e; cases e; exact List.mem_cons_self ..
      · rw [if_neg hc] at e; cases e; exact List.mem_cons_of_mem _ (ih _ hp)

/-- first half of `promoteOne`: the hole that ends where `p` starts, if any, is taken out and joined to `p`; the holes left, and
start and size of the piece so far -/
def joinLeft (hs : List E) (p : E) : List E × Nat × Nat :=
  match prevHole hs p.1 with
  | some h => if h.1 + h.2 = p.1 then (alErase hs h.1, h.1, p.2 + h.2) else (hs, p.1, p.2)
  | none => (hs, p.1, p.2)

/-- second half: the hole that starts where the piece ends, if any, is taken out and joined to it; the holes left, and the size -/
def joinRight (r1 : List E × Nat × Nat) : List E × Nat :=
  match alGet r1.1 (r1.2.1 + r1.2.2) with
  | some a => (alErase r1.1 (r1.2.1 + r1.2.2), r1.2.2 + a)
  | none => (r1.1, r1.2.2)

theorem promoteOne_eq (hs : List E) (p : E) :
    promoteOne hs p = (joinRight (joinLeft hs p)).1 ++ [((joinLeft hs p).2.1, (joinRight (joinLeft hs p)).2)] := rfl

theorem joinLeft_eq (hs : List E) (p : E) :
    joinLeft hs p = (hs, p.1, p.2) ∨
    ∃ h, prevHole hs p.1 = some h ∧ h.1 + h.2 = p.1 ∧ joinLeft hs p = (alErase hs h.1, h.1, p.2 + h.2) := by
  unfold joinLeft
  cases hph : prevHole hs p.1 with
  | none => exact Or.inl rfl
  | some h =>
    simp only
    split
    · rename_i hadj
      exact Or.inr ⟨h, rfl, hadj, rfl⟩
    · exact Or.inl rfl

theorem joinRight_eq (r1 : List E × Nat × Nat) :
    (alGet r1.1 (r1.2.1 + r1.2.2) = none ∧ joinRight r1 = (r1.1, r1.2.2)) ∨
    ∃ a, alGet r1.1 (r1.2.1 + r1.2.2) = some a ∧ joinRight r1 = (alErase r1.1 (r1.2.1 + r1.2.2), r1.2.2 + a) := by
  unfold joinRight
  cases hg : alGet r1.1 (r1.2.1 + r1.2.2) with
  | none => exact Or.inl ⟨rfl, rfl⟩
  | some a => exact Or.inr ⟨a, rfl, rfl⟩

end C02r

end AnyDB
