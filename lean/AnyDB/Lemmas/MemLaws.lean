import AnyDB.Model.Mem

/-!
Laws of the byte image `Mem`: read-own-write, frame, size, growth; of hole punching the frame and the size only (that the
punched range reads back as zeros is not proved).
(`write_to_mmap`, `set_len` growth, `fallocate(PUNCH_HOLE)` as modelled in `Model/Mem.lean`.)
`Mem.read` is defined here and not in the model: no operation uses it.  It is the reader's view, in which the statements are
written (`viewAt`, `Lemmas/RegionView.lean`; C01, C12).
-/
namespace AnyDB.Mem

/-- what a reader sees in `[off, off+len)` (`none` beyond the end of the file) -/
def read (m : Mem) (off len : Nat) : List (Option UInt8) := (List.range len).map (fun i => m.get? (off + i))

theorem read_congr (m m' : Mem) (o l : Nat) (h : ∀ i, i < l → m'.get? (o + i) = m.get? (o + i)) : m'.read o l = m.read o l := by
  unfold Mem.read
  exact List.map_congr_left (fun i hi => h i (List.mem_range.mp hi))

theorem read_getElem? (m : Mem) (o l i : Nat) : (m.read o l)[i]? = if i < l then some (m.get? (o + i)) else none := by
  unfold Mem.read
  by_cases h : i < l <;> simp [h]

theorem read_length (m : Mem) (o l : Nat) : (m.read o l).length = l := by unfold Mem.read; simp

theorem size_writeList (a : Array UInt8) (off : Nat) (d : List UInt8) : (writeList a off d).size = a.size := by
  induction d generalizing a off with
  | nil => rfl
  | cons b bs ih => simp [writeList, ih]

theorem get?_writeList (a : Array UInt8) (off : Nat) (d : List UInt8) (i : Nat) (h : off + d.length ≤ a.size) :
    (writeList a off d)[i]? = if off ≤ i ∧ i < off + d.length then d[i - off]? else a[i]? := by
  induction d generalizing a off with
  | nil => simp [writeList]; omega
  | cons b bs ih =>
    simp only [writeList]
    rw [ih _ _ (by simp at h ⊢; omega)]
    simp only [List.length_cons]
    by_cases h1 : off + 1 ≤ i ∧ i < off + 1 + bs.length
    · have h2 : off ≤ i ∧ i < off + (bs.length + 1) := by omega
      simp only [h1, h2, and_self, if_true]
      have : i - off = (i - (off + 1)) + 1 := by omega
      rw [this]; simp
    · simp only [h1, if_false]
      rw [Array.getElem?_setIfInBounds]
      by_cases h3 : off = i
      · subst h3
        have h2 : off ≤ off ∧ off < off + (bs.length + 1) := by omega
        have h4 : off < a.size := by simp at h; omega
        simp [h2, h4]
      · have h2 : ¬ (off ≤ i ∧ i < off + (bs.length + 1)) := by omega
        simp [h2, h3]

theorem get?_writeAt {m m' : Mem} {off : Nat} {d : List UInt8} (h : m.writeAt off d = some m') (i : Nat) :
    m'.get? i = if off ≤ i ∧ i < off + d.length then d[i - off]? else m.get? i := by
  unfold Mem.writeAt at h
  split at h
  · rename_i hb
    simp at h; subst h
    exact get?_writeList m.bytes off d i hb
  · simp at h

theorem size_writeAt {m m' : Mem} {off : Nat} {d : List UInt8} (h : m.writeAt off d = some m') : m'.size = m.size := by
  unfold Mem.writeAt at h
  split at h
  · simp at h; subst h; exact size_writeList _ _ _
  · simp at h

theorem writeAt_bound {m m' : Mem} {off : Nat} {d : List UInt8} (h : m.writeAt off d = some m') : off + d.length ≤ m.size := by
  unfold Mem.writeAt at h
  split at h
  · assumption
  · cases h

theorem writeAt_ne_none (m : Mem) (off : Nat) (d : List UInt8) (h : off + d.length ≤ m.size) : m.writeAt off d ≠ none := by
  unfold Mem.writeAt
  rw [if_pos h]
  nofun

theorem read_writeAt_frame {m m' : Mem} {off : Nat} {d : List UInt8} (h : m.writeAt off d = some m')
    (o l : Nat) (hd : o + l ≤ off ∨ off + d.length ≤ o) : m'.read o l = m.read o l :=
  read_congr _ _ _ _ (fun i hi => by rw [get?_writeAt h, if_neg (by omega)])

theorem read_writeAt_same {m m' : Mem} {off : Nat} {d : List UInt8} (h : m.writeAt off d = some m') :
    m'.read off d.length = d.map some := by
  unfold Mem.read
  apply List.ext_getElem
  · simp
  · intro i h1 h2
    simp at h1
    simp [get?_writeAt h, h1]

theorem get?_grow (m : Mem) (n i : Nat) :
    (m.grow n).get? i = if i < m.size then m.get? i else if i < n then some 0 else none := by
  unfold Mem.grow Mem.get? Mem.size
  rw [Array.getElem?_append, Array.getElem?_replicate]
  by_cases h : i < m.bytes.size
  · simp [h]
  · have h1 : (i - m.bytes.size < n - m.bytes.size) ↔ i < n := by omega
    simp [h, h1]

theorem read_grow (m : Mem) (n o l : Nat) (h : o + l ≤ m.size) : (m.grow n).read o l = m.read o l :=
  read_congr _ _ _ _ (fun i hi => by rw [get?_grow, if_pos (by omega)])

theorem size_grow (m : Mem) (n : Nat) : (m.grow n).size = max m.size n := by
  unfold Mem.grow Mem.size; simp; omega

theorem get?_punch (m : Mem) (off len x : Nat) (hd : ¬(off ≤ x ∧ x < off + len)) : (m.punch off len).get? x = m.get? x := by
  unfold Mem.punch Mem.get?
  by_cases hs : off ≤ m.size
  · rw [get?_writeList _ _ _ _ (by simp only [List.length_replicate]; unfold Mem.size at hs ⊢; omega), if_neg]
    simp only [List.length_replicate]; omega
  · rw [show min len (m.size - off) = 0 by omega]; rfl

theorem read_punch_frame (m : Mem) (off len o l : Nat) (hd : o + l ≤ off ∨ off + len ≤ o) :
    (m.punch off len).read o l = m.read o l :=
  read_congr _ _ _ _ (fun i hi => get?_punch m off len _ (by omega))

theorem size_punch (m : Mem) (off len : Nat) : (m.punch off len).size = m.size := by
  unfold Mem.punch Mem.size; exact size_writeList _ _ _

theorem length_slice (m : Mem) (src len : Nat) (h : src + len ≤ m.size) : (m.slice src len).length = len := by
  unfold Mem.slice Mem.size at *; simp; omega

theorem slice_getElem? (m : Mem) (src len i : Nat) (hi : i < len) (hin : src + len ≤ m.size) :
    (m.slice src len)[i]? = m.get? (src + i) := by
  unfold Mem.slice Mem.get? Mem.size at *
  rw [Array.getElem?_toList, Array.getElem?_extract]
  have : i < min (src + len) m.bytes.size - src := by omega
  simp [this]

end AnyDB.Mem
