import AnyDB.Lemmas.RegionErrors
import AnyDB.Lemmas.RegionMeta
/-!
Every answer under the invariants (`step_answer`): a success or a documented refusal (`Normal`) — unless the request is not well
formed (`OpFits`: a name `validate_id` rejects, a region growing beyond `MAX_LEN`), and then the answer is a panic or
`RegionSizeOverflow` (not `Fine`).  Read both ways: an answer that is `Fine` is `Normal` (`normal_of_fine`), and a well-formed
request is answered normally (`normal_of_fits`, `fine_step`).  The doubling loop of `write_with` ends below twice the need and does find a size (`growReserved_lt`,
`growReserved_some`, `Lemmas/RawdbSteps.lean`), so up to `MAX_LEN` the reservation stays within `MAX_RESERVED_SIZE`.
-/
namespace AnyDB.C01r
open Db C02r

/-- an answer that is neither a panic nor `RegionSizeOverflow` (the region would exceed 2^63 bytes) -/
def Fine (o : Out) : Prop := ¬IsPanic o ∧ o ≠ .err .regionSizeOverflow

theorem fine_ok : Fine .ok := ⟨by simp [IsPanic], by simp⟩
theorem fine_okN (n : Nat) : Fine (.okN n) := ⟨by simp [IsPanic], by simp⟩

theorem fine_of_normal {o : Out} (h : Normal o) : Fine o := by
  cases o with
  | ok => exact fine_ok
  | okN n => exact fine_okN n
  | panic m => exact h.elim
  | err k => exact ⟨id, fun e => by cases e; simp [Normal] at h⟩

theorem not_fine_panic (m : String) : ¬Fine (.panic m) := fun h => h.1 trivial

/-- the largest length (512 GiB) up to which a region can always grow: the doubled reservation stays within `MAX_RESERVED_SIZE` -/
def MAX_LEN : Nat := 2 ^ 39

theorem writeWith_answer (s : Db) (hinv : RInv s) (hi : InF s) (idx : Nat) (d : List UInt8) (at_ : Option Nat) (tr : Bool) :
    Normal (s.writeWith idx d at_ tr).2 ∨ (¬Fine (s.writeWith idx d at_ tr).2 ∧
      ∃ sl, s.slot? idx = some sl ∧ Db.outOfBounds at_ sl.md.len = false ∧ MAX_LEN < Db.newLenOf at_ tr sl.md.len d.length) := by
  generalize hr : s.writeWith idx d at_ tr = r
  obtain ⟨t, o⟩ := r
  rcases writeWith_spec hr with ⟨_, _, e⟩ | ⟨sl, hs, ⟨_, _, e⟩ | ⟨hoob, ⟨hfit, hy⟩ | ⟨hn, hy⟩⟩⟩
  · rw [e]; exact Or.inl (by simp [Normal])
  · rw [e]; exact Or.inl (by simp [Normal])
  · left
    rw [← congrArg Prod.snd hy, writeFits_out s idx sl d _ _ hi hs (newLen_bounds at_ tr sl.md.len d.length).1 hfit]; trivial
  · have hpos := slot_pos s hinv.lay idx sl hs
    have hmx : 2 * 2 ^ 39 = Gen.MAX_RESERVED_SIZE := by decide
    have hsome : ∀ nl, nl ≤ MAX_LEN → ∃ nr, growReserved 64 sl.md.reserved nl = some nr := fun nl hsmall => by
      unfold MAX_LEN at hsmall
      exact growReserved_some 63 sl.md.reserved nl hpos (by omega) (by omega)
    rw [← congrArg Prod.snd hy]
    rcases writeGrow_out s hinv hi idx sl d _ _ _ hs (copyLen_spec at_ tr _ d.length (getD_le_of_oob hoob)).1
      (newLen_bounds at_ tr sl.md.len d.length).1 with ⟨e, hnone⟩ | ⟨nr, hg, e | ⟨hlt, e⟩⟩
    · refine Or.inr ⟨by rw [e]; exact fun h => h.2 rfl, sl, hs, hoob, Nat.lt_of_not_le fun hsmall => ?_⟩
      obtain ⟨_, h⟩ := hsome _ hsmall
      rw [hnone] at h; cases h
    · rw [e]; exact Or.inl trivial
    · refine Or.inr ⟨by rw [e]; exact not_fine_panic _, sl, hs, hoob, ?_⟩
      have := growReserved_lt 64 _ _ _ hg hn
      unfold MAX_LEN
      omega

/-- the only failures of `create` are the assertion on the name: the best-fitting hole can take a page -/
theorem create_answer (s : Db) (h : LInv s) (id : RegionId) :
    Normal (s.create id).2 ∨ (¬Fine (s.create id).2 ∧ idValid id ≠ true) := by
  have hat : ∀ (s1 : Db) (start : Nat), Normal (createAt s1 id start).2 ∨ (¬Fine (createAt s1 id start).2 ∧ idValid id ≠ true) :=
    fun s1 start => createAt_cases (P := fun r => Normal r.2 ∨ (¬Fine r.2 ∧ idValid id ≠ true)) s1 id start
      (fun hv => Or.inr ⟨not_fine_panic _, by rw [hv]; nofun⟩) (fun _ => Or.inl trivial)
  refine create_cases (P := fun r => Normal r.2 ∨ (¬Fine r.2 ∧ idValid id ≠ true)) s id (fun _ _ => Or.inl trivial)
    (fun hstart e _ hb hrc => ?_) (fun _ _ _ _ _ => hat _ _) (fun _ _ => hat _ _)
  obtain ⟨_, hok⟩ := bestFit_cuts _ ((createPre_same s).1.linv h) Gen.PAGE_SIZE hstart hb
  rw [hok] at hrc; cases hrc

/-- the write keeps the region at most `MAX_LEN` long (stated on the model state) -/
def WFits (s : Db) (id : RegionId) (at_ : Option Nat) (tr : Bool) (d : List UInt8) : Prop :=
  ∀ idx sl, s.findId id = some idx → s.slot? idx = some sl → Db.outOfBounds at_ sl.md.len = false →
    Db.newLenOf at_ tr sl.md.len d.length ≤ MAX_LEN

def OpFits (s : Db) : Op → Prop
  | .create id => idValid id = true
  | .rename _ n => idValid n = true
  | .write id d => WFits s id none false d
  | .writeAt id a d => WFits s id (some a) false d
  | .truncateWrite id a d => WFits s id (some a) true d
  | _ => True

theorem step_answer (s : Db) (op : Op) (hinv : RInv s) (hi : InF s) (hno : ∀ n, op ≠ .reopen n) :
    Normal (step s op).2 ∨ (¬Fine (step s op).2 ∧ ¬OpFits s op) := by
  have hwrite : ∀ (id : RegionId) (d : List UInt8) (at_ : Option Nat) (tr : Bool),
      Normal (s.withRegion id (fun i => s.writeWith i d at_ tr)).2 ∨
        (¬Fine (s.withRegion id (fun i => s.writeWith i d at_ tr)).2 ∧ ¬WFits s id at_ tr d) :=
    fun id d at_ tr => withRegion_cases (P := fun r => Normal r.2 ∨ (¬Fine r.2 ∧ ¬WFits s id at_ tr d)) s id _
      (fun _ => Or.inl (by simp [Normal]))
      (fun idx hf => (writeWith_answer s hinv hi idx d at_ tr).imp_right
        (fun ⟨h1, sl, hs, hoob, hlt⟩ => ⟨h1, fun hfit => Nat.not_le_of_lt hlt (hfit idx sl hf hs hoob)⟩))
  cases op with
  | create id => exact create_answer s hinv.lay id
  | write id d => exact hwrite id d none false
  | writeAt id a d => exact hwrite id d (some a) false
  | truncateWrite id a d => exact hwrite id d (some a) true
  | truncate id n =>
    refine Or.inl (withRegion_cases (P := fun r => Normal r.2) s id _ (fun _ => by simp [Normal]) (fun idx _ => ?_))
    rcases truncate_spec (pair_of_snd rfl : s.truncate idx n = _) with ⟨_, _, e⟩ | ⟨_, _, ⟨_, _, e⟩ | ⟨_, _, e⟩ | ⟨_, _, e⟩⟩ <;>
      rw [e] <;> simp [Normal]
  | rename id n =>
    refine withRegion_cases (P := fun r => Normal r.2 ∨ (¬Fine r.2 ∧ ¬idValid n = true)) s id _ (fun _ => Or.inl (by simp [Normal]))
      (fun idx _ => ?_)
    rcases rename_spec (pair_of_snd rfl : s.rename idx n = _) with ⟨_, _, e⟩ | ⟨_, _, ⟨_, _, _, e⟩ | ⟨_, hv, _, e⟩ | ⟨_, _, _, e⟩⟩
    · rw [e]; exact Or.inl (by simp [Normal])
    · rw [e]; exact Or.inl (by simp [Normal])
    · rw [e]; exact Or.inr ⟨not_fine_panic _, by rw [hv]; nofun⟩
    · rw [e]; exact Or.inl trivial
  | remove id =>
    refine Or.inl (removeId_cases (P := fun r => Normal r.2) s id false (fun _ => by simp [Normal]) (fun idx hfi => ?_))
    obtain ⟨sl, hs, _⟩ := findId_some hfi
    rw [(remove_shape s idx sl hinv.lay hs).1]; trivial
  | removeHeld id =>
    left
    show Normal (s.removeId id true).2
    rcases removeId_held s id with e | e
    · rw [e]; simp [Normal]
    · rw [e]; simp [Normal]
  | retain ids =>
    left
    show Normal (s.retain ids).2
    rw [(retain_shape s ids hinv.lay).1]; trivial
  | flush =>
    left
    show Normal s.flush.2
    rw [Db.flush_eq]; trivial
  | regionFlush id =>
    refine Or.inl (withRegion_cases (P := fun r => Normal r.2) s id _ (fun _ => by simp [Normal]) (fun idx _ => ?_))
    rcases regionFlush_spec (pair_of_snd rfl : s.regionFlush idx = _) with
      ⟨_, _, e⟩ | ⟨_, _, _, _, _, _, _, _, _, ⟨_, e⟩ | ⟨_, _, e⟩⟩
    · rw [e]; simp [Normal]
    · rw [e]; simp [Normal]
    · rw [e]; trivial
  | compact =>
    left
    show Normal s.compact.2
    rw [compact_eq]; trivial
  | reopen n => exact absurd rfl (hno n)
  | setMinLen n => exact Or.inl trivial
  | setMinRegions n => exact Or.inl trivial

theorem normal_of_fine (s : Db) (op : Op) (hinv : RInv s) (hi : InF s) (hno : ∀ n, op ≠ .reopen n) (hf : Fine (step s op).2) :
    Normal (step s op).2 :=
  (step_answer s op hinv hi hno).resolve_right fun h => h.1 hf

theorem normal_of_fits (s : Db) (op : Op) (hinv : RInv s) (hi : InF s) (hno : ∀ n, op ≠ .reopen n) (hfit : OpFits s op) :
    Normal (step s op).2 :=
  (step_answer s op hinv hi hno).resolve_right fun h => h.2 hfit

/-- under the invariants a well-formed request neither panics nor answers `RegionSizeOverflow` -/
theorem fine_step (s : Db) (op : Op) (hinv : RInv s) (hi : InF s) (hno : ∀ n, op ≠ .reopen n) (hfit : OpFits s op) :
    Fine (step s op).2 :=
  fine_of_normal (normal_of_fits s op hinv hi hno hfit)

end AnyDB.C01r
