import AnyDB.Lemmas.LayoutMoves
import AnyDB.Lemmas.RawdbSteps

/-!
`Same s s'`: `s'` has the layout view of `s`, its mapping is no shorter and its cached file length still right (`Sz`).  That is
what everything leaves which is no move of the allocator — file growth, data writes and copies, updates of a slot that keep
its `(start, reserved)` (so truncate, rename, the fitting write, region flush), `flush` before the promotion, hole punching —
read off the closed forms and tables of `Lemmas/RawdbSteps.lean`.  Then what the layout invariant says about each list
(`*_pos_one`), the best-fitting hole (`bestFit_hole`, `bestFit_cuts`), two slots (`two_slots`, `table_apart`), the lookups
(`region_of_slot`, `reserved_get`), and what growing the last region rests on: nothing is claimed behind the region that
`is_last_anything` accepts (`isLast_free`, the one place where `Db.isLastAnything` is unfolded).
-/
namespace AnyDB.C02r
open Conc Db

/-- the cache of the file length stays right and the mapping does not shrink -/
def Sz (s f : Db) : Prop := (s.fileLen = s.mem.size → f.fileLen = f.mem.size) ∧ s.mem.size ≤ f.mem.size

theorem Sz.refl (s : Db) : Sz s s := ⟨id, Nat.le_refl _⟩
theorem Sz.trans {a b c : Db} (h1 : Sz a b) (h2 : Sz b c) : Sz a c := ⟨fun h => h2.1 (h1.1 h), Nat.le_trans h1.2 h2.2⟩
theorem sz_of_eq {s f : Db} (h1 : f.fileLen = s.fileLen) (h2 : f.mem.size = s.mem.size) : Sz s f :=
  ⟨fun e => by rw [h1, h2]; exact e, Nat.le_of_eq h2.symm⟩

/-- the first half of `InF` (`Lemmas/LayoutInFile.lean`) across `set_min_len`, and how far the mapping then reaches -/
theorem setMinLen_inf (s : Db) (n : Nat) (hi : s.fileLen = s.mem.size) :
    (s.setMinLen n).fileLen = (s.setMinLen n).mem.size ∧ s.mem.size ≤ (s.setMinLen n).mem.size ∧ n ≤ (s.setMinLen n).mem.size := by
  have h1 := le_ceilPage n
  rcases setMinLen_eq s n with ⟨h, e⟩ | ⟨k, hk, hn, e⟩
  · rw [e]; exact ⟨hi, Nat.le_refl _, by omega⟩
  · rw [e]
    simp only [Mem.size_grow]
    omega

theorem sz_setMinLen (s : Db) (n : Nat) : Sz s (s.setMinLen n) := by
  refine ⟨fun h => (setMinLen_inf s n h).1, ?_⟩
  rcases setMinLen_eq s n with ⟨_, e⟩ | ⟨k, _, _, e⟩
  · rw [e]; exact Nat.le_refl _
  · rw [e, Mem.size_grow]; exact Nat.le_max_left _ _

def Same (s s' : Db) : Prop :=
  vs s' = vs s ∧ s'.regions = s.regions ∧ s'.reserved = s.reserved ∧ s'.holes = s.holes ∧ s'.pending = s.pending ∧ Sz s s'

theorem Same.refl (s : Db) : Same s s := ⟨rfl, rfl, rfl, rfl, rfl, Sz.refl s⟩
theorem Same.trans {a b c : Db} (h1 : Same a b) (h2 : Same b c) : Same a c :=
  ⟨h2.1.trans h1.1, h2.2.1.trans h1.2.1, h2.2.2.1.trans h1.2.2.1, h2.2.2.2.1.trans h1.2.2.2.1, h2.2.2.2.2.1.trans h1.2.2.2.2.1,
    h1.2.2.2.2.2.trans h2.2.2.2.2.2⟩
theorem Same.sz {s s' : Db} (h : Same s s') : Sz s s' := h.2.2.2.2.2
theorem Same.linv {s s' : Db} (h : Same s s') (hi : LInv s) : LInv s' :=
  linv_congr s s' h.1 h.2.1 h.2.2.1 h.2.2.2.1 h.2.2.2.2.1 hi

theorem same_lay {s f : Db} (h : Same s f) : lay f = lay s := by
  obtain ⟨h1, h2, h3, h4, h5, _⟩ := h
  simp only [lay, h1, h2, h3, h4, h5]

theorem same_claimed (s s' : Db) (h : Same s s') : claimedDb s' = claimedDb s :=
  claimed_congr h.1 h.2.2.1 h.2.2.2.1 h.2.2.2.2.1

theorem Same.acc {s s' : Db} (h : Same s s') (ha : Acc s) : Acc s' := by
  unfold Acc; rw [same_claimed s s' h]; exact ha

theorem Same.al {s s' : Db} (h : Same s s') (ha : Al s) : Al s' := by
  unfold Al; rw [same_claimed s s' h]; exact ha

theorem same_of_slots {s t : Db} (h1 : t.slots = s.slots) (h2 : t.regions = s.regions) (h3 : t.reserved = s.reserved)
    (h4 : t.holes = s.holes) (h5 : t.pending = s.pending) (sz : Sz s t) : Same s t :=
  ⟨by unfold vs; rw [h1], h2, h3, h4, h5, sz⟩

theorem same_setMinLen (s : Db) (n : Nat) : Same s (s.setMinLen n) := by
  obtain ⟨h1, _, h3, h4, h5, h6⟩ := setMinLen_rest s n
  exact same_of_slots h1 h3 h5 h4 h6 (sz_setMinLen s n)

theorem Same.inf {s s' : Db} (h : Same s s') (hi : InF s) : InF s' := by
  unfold InF; rw [same_claimed s s' h]; exact ⟨h.sz.1 hi.1, inL_mono _ _ _ hi.2 h.sz.2⟩

theorem inf_setMinLen (s : Db) (n : Nat) (hi : InF s) : InF (s.setMinLen n) := (same_setMinLen s n).inf hi

theorem holes_setMinLen (s : Db) (n : Nat) : (s.setMinLen n).holes = s.holes :=
  (setMinLen_rest s n).2.2.2.1

theorem same_regionsSetMinSlots (s : Db) (n : Nat) : Same s (s.regionsSetMinSlots n) := by
  obtain ⟨h1, h2, h3, h4, h5, h6, h7⟩ := regionsSetMinSlots_rest s n
  exact same_of_slots h3 h4 h6 h5 h7 (sz_of_eq h1 (congrArg Mem.size h2))

theorem same_setMinRegions (s : Db) (n : Nat) : Same s (s.setMinRegions n) := by
  rw [setMinRegions_eq]
  exact (same_regionsSetMinSlots s n).trans (same_setMinLen _ _)

theorem same_dataWrite (s s' : Db) (off : Nat) (d : List UInt8) (h : s.dataWrite off d = some s') : Same s s' := by
  obtain ⟨m, hm, rfl⟩ := dataWrite_eq_some h
  exact ⟨rfl, rfl, rfl, rfl, rfl, sz_of_eq rfl (Mem.size_writeAt hm)⟩

theorem same_dataCopy (s s' : Db) (a b n : Nat) (h : s.dataCopy a b n = .ok s') : Same s s' := by
  rcases dataCopy_ok h with ⟨_, rfl⟩ | ⟨_, _, hw⟩
  · exact Same.refl _
  · exact same_dataWrite _ _ _ _ hw

theorem vs_set_same (slots : List (Option Slot)) (idx : Nat) (old new : Slot) (h : slots[idx]? = some (some old))
    (he : extOf new = extOf old) :
    (slots.set idx (some new)).map (fun o => o.map extOf) = slots.map (fun o => o.map extOf) := by
  induction slots generalizing idx with
  | nil => simp at h
  | cons a t ih =>
    cases idx with
    | zero => simp at h; subst h; simp [he]
    | succ k => simp at h; simp only [List.set_cons_succ, List.map_cons]; rw [ih k h]

theorem extOf_stored (sl : Slot) : extOf (stored sl) = extOf sl := by
  unfold extOf; rw [stored_md]

theorem same_writeIfDirty (s : Db) (idx : Nat) (old sl : Slot) (h : s.slot? idx = some old) (he : extOf sl = extOf old) :
    Same s (s.writeIfDirty idx sl) := by
  rw [writeIfDirty_eq]
  refine ⟨?_, rfl, rfl, rfl, rfl, Sz.refl s⟩
  unfold vs
  exact vs_set_same s.slots idx old _ ((slot_iff s idx old).mp h) (by rw [extOf_stored, he])

theorem extOf_metaSetLen (sl : Slot) (n : Nat) : extOf (metaSetLen sl n) = extOf sl := by
  unfold extOf; rw [metaSetLen_md]
theorem extOf_metaSetId (sl : Slot) (id : RegionId) : extOf (metaSetId sl id) = extOf sl := by
  unfold extOf; rw [metaSetId_md]
theorem extOf_markDirty (sl : Slot) (a b : Nat) : extOf (markDirty sl a b) = extOf sl := rfl
theorem extOf_metaSetReserved (sl : Slot) (n : Nat) : extOf (metaSetReserved sl n) = (sl.md.start, n) := by
  unfold extOf; rw [metaSetReserved_md]
theorem extOf_metaSetStart (sl : Slot) (n : Nat) : extOf (metaSetStart sl n) = (n, sl.md.reserved) := by
  unfold extOf; rw [metaSetStart_md]

theorem same_finishWrite (s : Db) (idx : Nat) (old sl : Slot) (a b c : Nat) (h : s.slot? idx = some old)
    (he : extOf sl = extOf old) : Same s (s.finishWrite idx sl a b c) := by
  rw [finishWrite_eq]
  exact same_writeIfDirty s idx old _ h (by rw [extOf_metaSetLen, extOf_markDirty, he])

theorem same_slot (s s' : Db) (h : Same s s') (idx : Nat) (sl : Slot) (hs : s.slot? idx = some sl) :
    ∃ sl', s'.slot? idx = some sl' ∧ extOf sl' = extOf sl := by
  have := slot_vs hs
  rw [← h.1] at this
  exact (vs_get s' idx _).mp this

theorem same_truncate (s : Db) (idx n : Nat) : Same s (s.truncate idx n).1 :=
  truncate_state s idx n (Same.refl s) fun sl hs _ => same_writeIfDirty s idx sl _ hs (extOf_metaSetLen sl n)

theorem same_rename (s : Db) (idx : Nat) (id : RegionId) : Same s (s.rename idx id).1 :=
  rename_state s idx id (Same.refl s) fun sl hs _ => same_writeIfDirty s idx sl _ hs (extOf_metaSetId sl id)

theorem same_writeFits (s : Db) (idx : Nat) (sl : Slot) (d : List UInt8) (wo nl : Nat) (hs : s.slot? idx = some sl) :
    Same s (s.writeFits idx sl d wo nl).1 := by
  rcases writeFits_spec (pair_of_snd rfl : s.writeFits idx sl d wo nl = _) with ⟨_, e, _⟩ | ⟨_, _, eo, _⟩
  · rw [e]; exact Same.refl s
  · obtain ⟨m, X, R, L, hm, hX, e⟩ := writeFits_ok (pair_of_snd eo)
    rw [e]
    exact ⟨vs_set_same s.slots idx sl X ((slot_iff s idx sl).mp hs) (by unfold extOf; rw [hX]), rfl, rfl, rfl, rfl,
      sz_of_eq rfl (Mem.size_writeAt hm)⟩

theorem vs_md (s : Db) : vs s = (s.slots.map (Option.map (·.md))).map (Option.map fun m => (m.start, m.reserved)) := by
  unfold vs
  rw [List.map_map]
  apply List.map_congr_left
  intro o _
  cases o <;> rfl

theorem same_of_flags {s t : Db} (h : FlagsOnly s t) : Same s t := by
  obtain ⟨sl', evs, hm, _, rfl⟩ := h
  refine ⟨?_, rfl, rfl, rfl, rfl, Sz.refl s⟩
  rw [vs_md, vs_md]
  exact congrArg _ hm

theorem same_regionFlush (s : Db) (idx : Nat) : Same s (s.regionFlush idx).1 := same_of_flags (flagsOnly_regionFlush s idx)

theorem vs_setSlot (s : Db) (idx : Nat) (o : Option Slot) : vs (s.setSlot idx o) = (vs s).set idx (o.map extOf) := by
  unfold vs Db.setSlot; simp [List.map_set]

theorem vs_append (s : Db) (sl : Slot) : (s.slots ++ [some sl]).map (fun o => o.map extOf) = vs s ++ [some (extOf sl)] := by
  unfold vs; simp

theorem flush_eq (s : Db) :
    s.flush.1 = { Db.flushPre s with holes := promote (Db.flushPre s).holes (Db.flushPre s).pending, pending := [] } :=
  congrArg Prod.fst (Db.flush_eq s)

theorem same_flushPre (s : Db) : Same s (Db.flushPre s) := same_of_flags (flagsOnly_flushPre s)

theorem same_punchHoles (s : Db) : Same s s.punchHoles := by
  obtain ⟨h1, h2, _, h4, h5, h6, h7, h8⟩ := punchHoles_rest s
  exact same_of_slots h2 h4 h6 h5 h7 (sz_of_eq h1 h8)

/-! What the layout invariant says about a slot, two slots, a slot and an extent of another list. -/

theorem ext_mem (s : Db) (idx : Nat) (e : E) (h : (vs s)[idx]? = some (some e)) : e ∈ claimedDb s := by
  obtain ⟨sl, hs, rfl⟩ := (vs_get s idx e).mp h
  exact extOf_mem_claimed s idx sl hs

theorem holes_pos_one (s : Db) (h : LInv s) : Pos s.holes ∧ One s.holes := ((linv_iff s).mp h).parts.2.1

theorem reserved_pos_one (s : Db) (h : LInv s) : Pos s.reserved ∧ One s.reserved := ((linv_iff s).mp h).parts.1

theorem slots_pos_one (s : Db) (h : LInv s) : Pos (exts s.slots) ∧ One (exts s.slots) :=
  ⟨fun e he => h.pos e ((mem_claimed s e).mpr (Or.inl he)),
   fun x => by have := h.one x; unfold claimedDb at this; simp only [cnt_append] at this; omega⟩

/-- the hole the best-fit search answers with is listed under its start, and is large enough to be cut -/
theorem bestFit_hole (s : Db) (h : LInv s) (need st : Nat) (hb : bestFit s.holes need = some st) :
    ∃ size, alGet s.holes st = some size ∧ need ≤ size :=
  bestFit_alGet s.holes need st (holes_pos_one s h).1 (holes_pos_one s h).2 hb

theorem bestFit_cuts (s : Db) (h : LInv s) (need st : Nat) (hb : bestFit s.holes need = some st) :
    ∃ hs, removeOrCompress s.holes st need = .ok hs := by
  obtain ⟨size, hg, hsz⟩ := bestFit_hole s h need st hb
  exact removeOrCompress_ok_of_le s.holes st need size hg hsz

theorem two_slots (slots : List (Option Slot)) (i j : Nat) (a b : Slot) (x : Nat) (hij : i ≠ j)
    (hi : slots[i]? = some (some a)) (hj : slots[j]? = some (some b)) :
    ind (extOf a) x + ind (extOf b) x ≤ cnt (exts slots) x := by
  have hm : ∀ k sl, slots[k]? = some (some sl) → (slots.map (fun o => o.map extOf))[k]? = some (some (extOf sl)) :=
    fun k sl h => by rw [List.getElem?_map, h]; rfl
  rw [exts_map]
  exact two_entries _ i j _ _ x hij (hm i a hi) (hm j b hj)

/-- in a slot table whose extents are non-empty and cover no byte twice, two slots are apart -/
theorem table_apart (L : List (Option Slot)) (hp : Pos (exts L)) (ho : One (exts L)) (i j : Nat) (a b : Slot) (hij : i ≠ j)
    (hi : L[i]? = some (some a)) (hj : L[j]? = some (some b)) :
    a.md.start + a.md.reserved ≤ b.md.start ∨ b.md.start + b.md.reserved ≤ a.md.start :=
  apart_of_ind (extOf a) (extOf b) (fun x => Nat.le_trans (two_slots L i j a b x hij hi hj) (ho x))
    (hp _ ((mem_exts L _).mpr ⟨i, a, hi, rfl⟩)) (hp _ ((mem_exts L _).mpr ⟨j, b, hj, rfl⟩))

theorem two_slots_le_one (s : Db) (h : LInv s) (i j : Nat) (a b : Slot) (x : Nat) (hij : i ≠ j) (ha : s.slot? i = some a)
    (hb : s.slot? j = some b) : ind (extOf a) x + ind (extOf b) x ≤ 1 :=
  Nat.le_trans (two_slots s.slots i j a b x hij ((slot_iff s i a).mp ha) ((slot_iff s j b).mp hb)) ((slots_pos_one s h).2 x)

theorem slot_of_start (s : Db) (h : LInv s) (i j st r1 r2 : Nat) (hi : (vs s)[i]? = some (some (st, r1)))
    (hj : (vs s)[j]? = some (some (st, r2))) : i = j :=
  ((linv_iff s).mp h).slot_inj hi hj

theorem regions_get (s : Db) (h : LInv s) (idx st r : Nat) (hv : (vs s)[idx]? = some (some (st, r))) :
    alGet s.regions st = some idx :=
  alGet_of_unique (h.reg1 idx st r hv) fun j hj => by
    obtain ⟨r', hv'⟩ := h.reg2 st j hj
    exact slot_of_start s h j idx st r' r hv' hv

/-- `regions_get` for a slot: the start map answers with the slot itself -/
theorem region_of_slot {s : Db} (h : LInv s) {idx : Nat} {sl : Slot} (hs : s.slot? idx = some sl) :
    alGet s.regions sl.md.start = some idx :=
  regions_get s h idx _ _ (slot_vs hs)

/-- a reservation is listed under its start -/
theorem reserved_get {s : Db} (h : LInv s) {e : E} (he : e ∈ s.reserved) : alGet s.reserved e.1 = some e.2 :=
  alGet_of_mem s.reserved e (reserved_pos_one s h).1 (reserved_pos_one s h).2 he

theorem cross_start (s : Db) (h : LInv s) (e p : E) (he : e ∈ exts s.slots) (hp : p ∈ s.pending ∨ p ∈ s.holes ∨ p ∈ s.reserved) :
    p.1 ≠ e.1 := by
  obtain ⟨idx, sl, hs, rfl⟩ := (mem_exts s.slots e).mp he
  exact ((linv_iff s).mp h).fresh_start (slot_vs ((slot_iff s idx sl).mpr hs)) hp

theorem isLast_free (s : Db) (h : LInv s) (idx : Nat) (sl : Slot) (hs : s.slot? idx = some sl)
    (hl : s.isLastAnything idx = true) : ∀ x, sl.md.start + sl.md.reserved ≤ x → cnt (claimedDb s) x = 0 := by
  have hv : (vs s)[idx]? = some (some (sl.md.start, sl.md.reserved)) := slot_vs hs
  have hme : extOf sl ∈ claimedDb s := extOf_mem_claimed s idx sl hs
  unfold Db.isLastAnything at hl
  cases hlr : lastOf s.regions with
  | none => simp [hlr] at hl
  | some y =>
    obtain ⟨ls, li⟩ := y
    simp only [hlr, Bool.and_eq_true, beq_iff_eq] at hl
    obtain ⟨⟨⟨hli, hh⟩, hr⟩, hp⟩ := hl
    subst hli
    obtain ⟨y1, y2⟩ := lastOf_spec s.regions _ hlr
    obtain ⟨r', hv'⟩ := h.reg2 ls li y1
    rw [hv] at hv'
    have hls : sl.md.start = ls := congrArg Prod.fst (Option.some.inj (Option.some.inj hv'))
    intro x hx
    apply cnt_zero_of_stops
    intro e he
    -- an extent that starts at or before the region ends at or before it (`stop_le`)
    suffices hle : e.1 ≤ sl.md.start by
      have := stop_le (claimedDb s) h.one h.pos e (extOf sl) he hme hle
      exact Nat.le_trans this hx
    -- the region starts behind the last entry of each list
    have below : ∀ (l : List E), (match lastOf l with | none => true | some (a, _) => decide (ls > a)) = true →
        e ∈ l → e.1 ≤ sl.md.start := by
      intro l hg hel
      cases hlx : lastOf l with
      | none => rw [lastOf_none _ hlx] at hel; cases hel
      | some z =>
        rw [hlx] at hg
        have := (lastOf_spec l z hlx).2 e hel
        have := of_decide_eq_true hg
        omega
    rcases (mem_claimed s e).mp he with h1 | h1 | h1 | h1
    · obtain ⟨j, slj, hj, rfl⟩ := (mem_exts s.slots e).mp h1
      rw [hls]
      exact y2 (slj.md.start, j) (h.reg1 j _ _ (slot_vs ((slot_iff s j slj).mpr hj)))
    · exact below _ hr h1
    · exact below _ hh h1
    · exact below _ hp h1

end AnyDB.C02r
