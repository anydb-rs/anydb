import AnyDB.Lemmas.LayoutInFile
import AnyDB.Lemmas.LayoutAlign

/-!
The layout view of a state and the moves of the allocator on it.

`lay s` is what the layout invariants see of a state: the extents of the slots, the start map, reservations, holes and
pending holes.  `Mv p L L'`: one move of the allocator takes the view `L` to `L'` —
* a piece `[a, a+n)` (then `p = some (a, n)`) is taken from the front of a hole or from the end of everything claimed
  (`Src`) and given to a free slot, a new slot, a reservation or the region that ends at `a` (`Dst`);
* a region is removed, a region moves into its reservation, the pending holes are promoted (`p = none`).
Each move leaves the number of extents covering a byte alone or adds the piece on top of everything, so it keeps the
layout invariant and the accounting (`Mv.li_acc`); it keeps every predicate on extents that survives cutting and joining
(`Mv.all`), given that the piece satisfies it.
-/
namespace AnyDB.C02r
open Conc

theorem getElem?_set_some {α : Type} (l : List α) (i j : Nat) (v w : α) (h : (l.set i v)[j]? = some w) :
    (j = i ∧ w = v) ∨ (j ≠ i ∧ l[j]? = some w) := by
  by_cases hji : j = i
  · subst hji
    rw [List.getElem?_set] at h
    simp only [if_true] at h
    split at h
    · exact Or.inl ⟨rfl, (Option.some.inj h).symm⟩
    · cases h
  · rw [List.getElem?_set_ne (Ne.symm hji)] at h; exact Or.inr ⟨hji, h⟩

structure Lay where
  slots : List (Option E)
  reg : List (Nat × Nat)
  res : List E
  holes : List E
  pend : List E

def lay (s : Db) : Lay := ⟨vs s, s.regions, s.reserved, s.holes, s.pending⟩

def Lay.cl (L : Lay) : List E := L.slots.filterMap id ++ L.res ++ L.holes ++ L.pend

theorem cl_lay (s : Db) : (lay s).cl = claimedDb s := by
  unfold Lay.cl lay claimedDb; rw [exts_vs]

theorem Lay.cnt_cl (L : Lay) (x : Nat) :
    cnt L.cl x = cnt (L.slots.filterMap id) x + cnt L.res x + cnt L.holes x + cnt L.pend x := by
  simp only [Lay.cl, cnt_append]

theorem Lay.mem_cl (L : Lay) (e : E) : e ∈ L.cl ↔ e ∈ L.slots.filterMap id ∨ e ∈ L.res ∨ e ∈ L.holes ∨ e ∈ L.pend := by
  simp only [Lay.cl, List.mem_append, or_assoc]

theorem Lay.mem_slots {L : Lay} {idx : Nat} {e : E} (h : L.slots[idx]? = some (some e)) : e ∈ L.slots.filterMap id :=
  List.mem_filterMap.mpr ⟨some e, List.mem_of_getElem? h, rfl⟩

/-- the layout invariant, on the view -/
structure LI (L : Lay) : Prop where
  one : One L.cl
  pos : Pos L.cl
  reg1 : ∀ (idx st r : Nat), L.slots[idx]? = some (some (st, r)) → (st, idx) ∈ L.reg
  reg2 : ∀ (st idx : Nat), (st, idx) ∈ L.reg → ∃ r, L.slots[idx]? = some (some (st, r))

theorem linv_iff (s : Db) : LInv s ↔ LI (lay s) :=
  ⟨fun h => ⟨by rw [cl_lay]; exact h.one, by rw [cl_lay]; exact h.pos, h.reg1, h.reg2⟩,
   fun h => ⟨by rw [← cl_lay]; exact h.one, by rw [← cl_lay]; exact h.pos, h.reg1, h.reg2⟩⟩

/-- where the piece `[a, a+n)` comes from; the last argument is what it leaves of the holes -/
inductive Src (L : Lay) (a n : Nat) : List E → Prop
  | hole (sz : Nat) (hs : List E) : alGet L.holes a = some sz → removeOrCompress L.holes a n = .ok hs → Src L a n hs
  | top : Top L.cl a → Src L a n L.holes

/-- where the piece goes; the last three arguments are the slots, the start map and the reservations afterwards -/
inductive Dst (L : Lay) (a n : Nat) : List (Option E) → List (Nat × Nat) → List E → Prop
  | fill (idx : Nat) : L.slots[idx]? = some none → Dst L a n (L.slots.set idx (some (a, n))) (L.reg ++ [(a, idx)]) L.res
  | push : Dst L a n (L.slots ++ [some (a, n)]) (L.reg ++ [(a, L.slots.length)]) L.res
  | reserve : Dst L a n L.slots L.reg (L.res ++ [(a, n)])
  | grow (idx st r : Nat) : L.slots[idx]? = some (some (st, r)) → a = st + r →
      Dst L a n (L.slots.set idx (some (st, r + n))) L.reg L.res

inductive Mv : Option E → Lay → Lay → Prop
  | alloc {L : Lay} {a n : Nat} {hs : List E} {xs : List (Option E)} {reg : List (Nat × Nat)} {res : List E} :
      0 < n → Src L a n hs → Dst L a n xs reg res → Mv (some (a, n)) L ⟨xs, reg, res, hs, L.pend⟩
  | removed {L : Lay} (idx : Nat) (e : E) : L.slots[idx]? = some (some e) →
      Mv none L { L with slots := L.slots.set idx none, reg := alErase L.reg e.1, pend := sortedInsert L.pend e.1 e.2 }
  | moved {L : Lay} (idx : Nat) (e t : E) : L.slots[idx]? = some (some e) → t ∈ L.res →
      Mv none L ⟨L.slots.set idx (some t), alErase L.reg e.1 ++ [(t.1, idx)], alErase L.res t.1, L.holes,
        sortedInsert L.pend e.1 e.2⟩
  | promote (L : Lay) : Mv none L { L with holes := promote L.holes L.pend, pend := [] }

theorem LI.parts {L : Lay} (h : LI L) :
    (Pos L.res ∧ One L.res) ∧ (Pos L.holes ∧ One L.holes) ∧ (Pos L.pend ∧ One L.pend) := by
  refine ⟨⟨fun e he => h.pos e ((L.mem_cl e).mpr (Or.inr (Or.inl he))), fun x => ?_⟩,
    ⟨fun e he => h.pos e ((L.mem_cl e).mpr (Or.inr (Or.inr (Or.inl he)))), fun x => ?_⟩,
    ⟨fun e he => h.pos e ((L.mem_cl e).mpr (Or.inr (Or.inr (Or.inr he)))), fun x => ?_⟩⟩ <;>
  · have := h.one x; rw [L.cnt_cl] at this; omega

theorem Lay.mem_other {L : Lay} {p : E} (hp : p ∈ L.pend ∨ p ∈ L.holes ∨ p ∈ L.res) : p ∈ L.cl :=
  (L.mem_cl p).mpr (hp.elim (fun h => .inr (.inr (.inr h))) (·.elim (fun h => .inr (.inr (.inl h))) (fun h => .inr (.inl h))))

/-- a live slot's extent and a reservation, hole or pending hole are apart: a byte of both would be counted twice -/
theorem LI.slot_apart {L : Lay} (h : LI L) {idx : Nat} {e p : E} (hs : L.slots[idx]? = some (some e))
    (hp : p ∈ L.pend ∨ p ∈ L.holes ∨ p ∈ L.res) : p.1 + p.2 ≤ e.1 ∨ e.1 + e.2 ≤ p.1 := by
  refine apart_of_ind p e (fun x => ?_) (h.pos p (Lay.mem_other hp)) (h.pos e ((L.mem_cl e).mpr (Or.inl (Lay.mem_slots hs))))
  have h1 := h.one x
  rw [L.cnt_cl] at h1
  have h2 := ind_le_cnt _ e x (Lay.mem_slots hs)
  rcases hp with hp | hp | hp <;>
  · have := ind_le_cnt _ p x hp; omega

theorem LI.fresh_start {L : Lay} (h : LI L) {idx : Nat} {e p : E} (hs : L.slots[idx]? = some (some e))
    (hp : p ∈ L.pend ∨ p ∈ L.holes ∨ p ∈ L.res) : p.1 ≠ e.1 := by
  have := h.slot_apart hs hp
  have := h.pos p (Lay.mem_other hp)
  have := h.pos e ((L.mem_cl e).mpr (Or.inl (Lay.mem_slots hs)))
  omega

theorem LI.slot_inj {L : Lay} (h : LI L) {i j st r1 r2 : Nat} (hi : L.slots[i]? = some (some (st, r1)))
    (hj : L.slots[j]? = some (some (st, r2))) : i = j := by
  refine Decidable.byContradiction fun hij => ?_
  have h2 := two_entries L.slots i j _ _ st hij hi hj
  have hx := h.one st
  rw [L.cnt_cl] at hx
  have p1 : ind (st, r1) st = 1 := ind_self (st, r1) (h.pos _ ((L.mem_cl _).mpr (Or.inl (Lay.mem_slots hi))))
  have p2 : ind (st, r2) st = 1 := ind_self (st, r2) (h.pos _ ((L.mem_cl _).mpr (Or.inl (Lay.mem_slots hj))))
  omega

theorem Src.cnt {L : Lay} {a n : Nat} {hs : List E} (h : Src L a n hs) (hi : LI L) :
    (∀ x, cnt hs x + ind (a, n) x = cnt L.holes x) ∨ (hs = L.holes ∧ Top L.cl a) := by
  cases h with
  | hole sz hs hg hrc =>
    exact Or.inl fun x => (removeOrCompress_cnt L.holes hs a n sz hi.parts.2.1.1 hi.parts.2.1.2 hg hrc x).2.1
  | top ht => exact Or.inr ⟨rfl, ht⟩

theorem Dst.cnt {L : Lay} {a n : Nat} {xs : List (Option E)} {reg : List (Nat × Nat)} {res : List E} (h : Dst L a n xs reg res)
    (x : Nat) : cnt (xs.filterMap id) x + cnt res x = cnt (L.slots.filterMap id) x + cnt L.res x + ind (a, n) x := by
  cases h with
  | fill idx hf => have := cnt_set L.slots idx _ (some (a, n)) x hf; simp only [oE, cnt_cons, cnt_nil] at this; omega
  | push => simp only [List.filterMap_append, cnt_append, List.filterMap_cons, id, List.filterMap_nil, cnt_cons, cnt_nil]; omega
  | reserve => simp only [cnt_append, cnt_cons, cnt_nil]; omega
  | grow idx st r hs ha =>
    have := cnt_set L.slots idx _ (some (st, r + n)) x hs
    have e3 := ind_split st r n x
    simp only [oE, cnt_cons, cnt_nil] at this
    rw [ha]; omega

/-- `t` is what the slot takes for its extent `e`: nothing (`Mv.removed`) or its reservation (`Mv.moved`); so in `reg_switch` -/
theorem cnt_switch {L : Lay} (hi : LI L) {idx : Nat} {e : E} (hs : L.slots[idx]? = some (some e)) (t : Option E) (x : Nat) :
    cnt ((L.slots.set idx t).filterMap id) x + cnt (sortedInsert L.pend e.1 e.2) x =
      cnt (L.slots.filterMap id) x + cnt L.pend x + cnt (oE t) x := by
  have h1 : cnt ((L.slots.set idx t).filterMap id) x + cnt [e] x = cnt (L.slots.filterMap id) x + cnt (oE t) x :=
    cnt_set L.slots idx _ t x hs
  have h2 := cnt_sortedInsert L.pend e.1 e.2 x (fun p hp => hi.fresh_start hs (Or.inl hp))
  obtain ⟨e1, e2⟩ := e
  simp only [cnt_cons, cnt_nil] at h1 h2 ⊢
  omega

theorem Dst.reg {L : Lay} {a n : Nat} {xs : List (Option E)} {reg : List (Nat × Nat)} {res : List E} (h : Dst L a n xs reg res)
    (hi : LI L) :
    (∀ (idx st r : Nat), xs[idx]? = some (some (st, r)) → (st, idx) ∈ reg) ∧
    (∀ (st idx : Nat), (st, idx) ∈ reg → ∃ r, xs[idx]? = some (some (st, r))) := by
  cases h with
  | fill idx hf =>
    have hlen : idx < L.slots.length := (List.getElem?_eq_some_iff.mp hf).1
    refine ⟨fun i st r h => ?_, fun st i hm => ?_⟩
    · rcases getElem?_set_some _ _ _ _ _ h with ⟨rfl, h2⟩ | ⟨_, h2⟩
      · cases h2; exact List.mem_append_right _ (List.mem_singleton.mpr rfl)
      · exact List.mem_append_left _ (hi.reg1 i st r h2)
    · rcases List.mem_append.mp hm with hm | hm
      · obtain ⟨r, hr⟩ := hi.reg2 st i hm
        have : i ≠ idx := fun e => by rw [e, hf] at hr; cases hr
        exact ⟨r, by rw [List.getElem?_set_ne (Ne.symm this)]; exact hr⟩
      · cases List.mem_singleton.mp hm; exact ⟨n, List.getElem?_set_self hlen⟩
  | push =>
    refine ⟨fun i st r h => ?_, fun st i hm => ?_⟩
    · rcases Nat.lt_or_ge i L.slots.length with hlt | hge
      · rw [List.getElem?_append_left hlt] at h; exact List.mem_append_left _ (hi.reg1 i st r h)
      · rw [List.getElem?_append_right hge] at h
        have h0 : i - L.slots.length = 0 := by
          rcases Nat.eq_zero_or_pos (i - L.slots.length) with h0 | h0
          · exact h0
          · rw [List.getElem?_eq_none (by simp; omega)] at h; cases h
        rw [h0] at h; simp only [List.getElem?_cons_zero, Option.some.injEq, Prod.mk.injEq] at h
        have : i = L.slots.length := by omega
        rw [this, ← h.1]; exact List.mem_append_right _ (List.mem_singleton.mpr rfl)
    · rcases List.mem_append.mp hm with hm | hm
      · obtain ⟨r, hr⟩ := hi.reg2 st i hm
        exact ⟨r, by rw [List.getElem?_append_left (List.getElem?_eq_some_iff.mp hr).1]; exact hr⟩
      · cases List.mem_singleton.mp hm; exact ⟨n, by simp⟩
  | reserve => exact ⟨hi.reg1, hi.reg2⟩
  | grow idx st r hs ha =>
    have hlen : idx < L.slots.length := (List.getElem?_eq_some_iff.mp hs).1
    refine ⟨fun i st' r' h => ?_, fun st' i hm => ?_⟩
    · rcases getElem?_set_some _ _ _ _ _ h with ⟨rfl, h2⟩ | ⟨_, h2⟩
      · cases h2; exact hi.reg1 _ _ _ hs
      · exact hi.reg1 i st' r' h2
    · obtain ⟨r', hr⟩ := hi.reg2 st' i hm
      by_cases hii : i = idx
      · subst hii; rw [hs] at hr; cases hr; exact ⟨r + n, List.getElem?_set_self hlen⟩
      · exact ⟨r', by rw [List.getElem?_set_ne (Ne.symm hii)]; exact hr⟩

theorem reg_switch {L : Lay} (hi : LI L) {idx : Nat} {e : E} (hs : L.slots[idx]? = some (some e)) (t : Option E) :
    (∀ (i st r : Nat), (L.slots.set idx t)[i]? = some (some (st, r)) →
      (st, i) ∈ alErase L.reg e.1 ++ (oE t).map (fun t => (t.1, idx))) ∧
    (∀ (st i : Nat), (st, i) ∈ alErase L.reg e.1 ++ (oE t).map (fun t => (t.1, idx)) →
      ∃ r, (L.slots.set idx t)[i]? = some (some (st, r))) := by
  have hlen : idx < L.slots.length := (List.getElem?_eq_some_iff.mp hs).1
  refine ⟨fun i st r h => ?_, fun st i hm => ?_⟩
  · rcases getElem?_set_some _ _ _ _ _ h with ⟨rfl, h2⟩ | ⟨hne, h2⟩
    · subst h2; exact List.mem_append_right _ (by simp [oE])
    · refine List.mem_append_left _ (mem_alErase.mpr ⟨hi.reg1 i st r h2, fun hst => hne ?_⟩)
      obtain ⟨e1, e2⟩ := e
      simp only at hst; subst hst
      exact hi.slot_inj h2 hs
  · rcases List.mem_append.mp hm with hm | hm
    · obtain ⟨hm1, hm2⟩ := mem_alErase.mp hm
      obtain ⟨r, hr⟩ := hi.reg2 st i hm1
      have : i ≠ idx := fun e2 => by rw [e2, hs] at hr; cases hr; exact hm2 rfl
      exact ⟨r, by rw [List.getElem?_set_ne (Ne.symm this)]; exact hr⟩
    · cases t with
      | none => simp [oE] at hm
      | some t =>
        simp only [oE, List.map_cons, List.map_nil, List.mem_singleton, Prod.mk.injEq] at hm
        obtain ⟨rfl, rfl⟩ := hm
        exact ⟨t.2, List.getElem?_set_self hlen⟩

theorem Mv.all {P : E → Prop} (sg : Seg P) {p : Option E} {L L' : Lay} (m : Mv p L L') (hp : ∀ e, p = some e → P e)
    (h : ∀ e ∈ L.cl, P e) : ∀ e ∈ L'.cl, P e := by
  simp only [Lay.mem_cl] at h ⊢
  cases m with
  | @alloc _ a n hs xs reg res h0 src dst =>
    have hpc : P (a, n) := hp _ rfl
    have hholes : ∀ e ∈ hs, P e := by
      cases src with
      | hole sz hs hg hrc => exact all_removeOrCompress sg _ _ _ _ (fun e he => h e (Or.inr (Or.inr (Or.inl he)))) hpc hrc
      | top => exact fun e he => h e (Or.inr (Or.inr (Or.inl he)))
    have hsr : ∀ e, e ∈ xs.filterMap id ∨ e ∈ res → P e := by
      cases dst with
      | fill idx hf =>
        rintro e (he | he)
        · exact all_set _ _ _ (fun e he => h e (Or.inl he)) (fun e he => by cases he; exact hpc) e he
        · exact h e (Or.inr (Or.inl he))
      | push =>
        rintro e (he | he)
        · rw [List.filterMap_append] at he
          exact all_snoc _ _ (fun e he => h e (Or.inl he)) hpc e he
        · exact h e (Or.inr (Or.inl he))
      | reserve =>
        rintro e (he | he)
        · exact h e (Or.inl he)
        · exact all_snoc _ _ (fun e he => h e (Or.inr (Or.inl he))) hpc e he
      | grow idx st r hs ha =>
        rintro e (he | he)
        · refine all_set _ _ _ (fun e he => h e (Or.inl he)) (fun e he => ?_) e he
          cases he
          -- the grown extent is the old one joined with the piece behind it
          exact sg.join _ _ _ (h _ (Or.inl (Lay.mem_slots hs))) (by rw [← ha]; exact hpc)
        · exact h e (Or.inr (Or.inl he))
    rintro e (he | he | he | he)
    · exact hsr e (Or.inl he)
    · exact hsr e (Or.inr he)
    · exact hholes e he
    · exact h e (Or.inr (Or.inr (Or.inr he)))
  | removed idx e hs =>
    rintro x (he | he | he | he)
    · exact all_set _ _ _ (fun e he => h e (Or.inl he)) (fun _ h => by cases h) x he
    · exact h x (Or.inr (Or.inl he))
    · exact h x (Or.inr (Or.inr (Or.inl he)))
    · exact all_sortedInsert _ _ _ (fun e he => h e (Or.inr (Or.inr (Or.inr he)))) (h _ (Or.inl (Lay.mem_slots hs))) x he
  | moved idx e t hs ht =>
    rintro x (he | he | he | he)
    · exact all_set _ _ _ (fun e he => h e (Or.inl he)) (fun _ h' => by cases h'; exact h _ (Or.inr (Or.inl ht))) x he
    · exact all_alErase _ _ (fun e he => h e (Or.inr (Or.inl he))) x he
    · exact h x (Or.inr (Or.inr (Or.inl he)))
    · exact all_sortedInsert _ _ _ (fun e he => h e (Or.inr (Or.inr (Or.inr he)))) (h _ (Or.inl (Lay.mem_slots hs))) x he
  | promote =>
    rintro x (he | he | he | he)
    · exact h x (Or.inl he)
    · exact h x (Or.inr (Or.inl he))
    · exact all_promote sg _ _ (fun e he => h e (Or.inr (Or.inr (Or.inl he)))) (fun e he => h e (Or.inr (Or.inr (Or.inr he)))) x he
    · cases he

theorem Mv.li_acc {p : Option E} {L L' : Lay} (m : Mv p L L') (hi : LI L) :
    LI L' ∧ (AccL L.cl → AccL L'.cl) := by
  have hpos : (∀ e, p = some e → 0 < e.2) → Pos L'.cl := fun hp => m.all seg_pos hp hi.pos
  cases m with
  | @alloc _ a n hs xs reg res h0 src dst =>
    have hp := hpos (fun e he => by cases he; exact h0)
    have hd := dst.cnt
    rcases src.cnt hi with hsc | ⟨rfl, ht⟩
    · have he : ∀ x, cnt (Lay.cl ⟨xs, reg, res, hs, L.pend⟩) x = cnt L.cl x := fun x => by
        have := hd x; have := hsc x; simp only [Lay.cnt_cl]; omega
      exact ⟨⟨one_of_eq he hi.one, hp, (dst.reg hi).1, (dst.reg hi).2⟩, accL_of_eq he⟩
    · have he : ∀ x, cnt (Lay.cl ⟨xs, reg, res, L.holes, L.pend⟩) x = cnt L.cl x + ind (a, n) x := fun x => by
        have := hd x; simp only [Lay.cnt_cl]; omega
      exact ⟨⟨one_of_top he ht hi.one, hp, (dst.reg hi).1, (dst.reg hi).2⟩, accL_of_top he ht⟩
  | removed idx e hs =>
    have hp := hpos (fun _ h => by cases h)
    have he : ∀ x, cnt (Lay.cl { L with slots := L.slots.set idx none, reg := alErase L.reg e.1, pend := sortedInsert L.pend e.1 e.2 }) x
        = cnt L.cl x := fun x => by have := cnt_switch hi hs none x; simp only [Lay.cnt_cl, oE, cnt_nil] at this ⊢; omega
    have hr := reg_switch hi hs none
    simp only [oE, List.map_nil, List.append_nil] at hr
    exact ⟨⟨one_of_eq he hi.one, hp, hr.1, hr.2⟩, accL_of_eq he⟩
  | moved idx e t hs ht =>
    have hp := hpos (fun _ h => by cases h)
    have he : ∀ x, cnt (Lay.cl ⟨L.slots.set idx (some t), alErase L.reg e.1 ++ [(t.1, idx)], alErase L.res t.1, L.holes,
        sortedInsert L.pend e.1 e.2⟩) x = cnt L.cl x := fun x => by
      have h1 := cnt_switch hi hs (some t) x
      have h3 := cnt_alErase L.res t x hi.parts.1.1 hi.parts.1.2 ht
      simp only [Lay.cnt_cl, oE, cnt_cons, cnt_nil] at h1 ⊢; omega
    have hr := reg_switch hi hs (some t)
    exact ⟨⟨one_of_eq he hi.one, hp, hr.1, hr.2⟩, accL_of_eq he⟩
  | promote =>
    have hp := hpos (fun _ h => by cases h)
    have hsum : ∀ x, cnt L.holes x + cnt L.pend x ≤ 1 := fun x => by have := hi.one x; rw [L.cnt_cl] at this; omega
    have he : ∀ x, cnt (Lay.cl { L with holes := AnyDB.promote L.holes L.pend, pend := [] }) x = cnt L.cl x := fun x => by
      have := (promote_cnt L.holes L.pend hi.parts.2.1.1 hi.parts.2.2.1 hsum).1 x
      simp only [Lay.cnt_cl, cnt_nil]; omega
    exact ⟨⟨one_of_eq he hi.one, hp, hi.reg1, hi.reg2⟩, accL_of_eq he⟩

/-- `Mv.li_acc`, `Mv.all` and `Src.top` for the views of two states, read on the states -/
theorem Mv.linv {p : Option E} {s f : Db} (m : Mv p (lay s) (lay f)) (h : LInv s) : LInv f ∧ (Acc s → Acc f) := by
  have hm := m.li_acc ((linv_iff s).mp h)
  rw [cl_lay, cl_lay] at hm
  exact ⟨(linv_iff f).mpr hm.1, hm.2⟩

theorem Mv.claimed {P : E → Prop} (sg : Seg P) {p : Option E} {s f : Db} (m : Mv p (lay s) (lay f)) (hp : ∀ e, p = some e → P e)
    (h : ∀ e ∈ claimedDb s, P e) : ∀ e ∈ claimedDb f, P e := by
  rw [← cl_lay] at h ⊢
  exact m.all sg hp h

theorem Src.top_of {s : Db} {a n : Nat} (ht : Top (claimedDb s) a) : Src (lay s) a n (lay s).holes :=
  .top (cl_lay s ▸ ht)

end AnyDB.C02r
