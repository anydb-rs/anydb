import AnyDB.Lemmas.Footprint
/-!
A request that does not name region `j` keeps it (`Keep`, `Lemmas/Footprint.lean`): its metadata stays, and nothing the request
stores lands in the pages that hold its data, nor is a file cut below them (`keep_step`).  The reasons are C02's: other regions'
extents (old and new), relocation reservations and free extents are apart from `j`'s extent, the last region has nothing behind
it, and compaction punches only beyond `start + ceilPage len`.
-/
namespace AnyDB.C05r
open Db C02r C01r

theorem keep_truncate (j a b : Nat) (s : Db) (idx n : Nat) (hj : j ≠ idx) : Keep j a b s (s.truncate idx n).1 :=
  truncate_state s idx n (Keep.refl _ _ _ _) fun _ _ _ => keep_writeIfDirty_ne _ _ _ _ _ _ hj

theorem keep_rename (j a b : Nat) (s : Db) (idx : Nat) (nid : RegionId) (hj : j ≠ idx) : Keep j a b s (s.rename idx nid).1 :=
  rename_state s idx nid (Keep.refl _ _ _ _) fun _ _ _ => keep_writeIfDirty_ne _ _ _ _ _ _ hj

theorem keep_dropped_ne (j a b : Nat) (t : Db) (idx : Nat) (hj : j ≠ idx) : Keep j a b t (dropped t idx) :=
  ⟨by rw [slot?_set_ne (t := dropped t idx) rfl hj], ⟨[_], rfl, av_single (Ne.symm hj)⟩, Nat.le_refl _,
    Nat.le_of_eq (List.length_set).symm⟩

theorem keep_remove (j a b : Nat) (s : Db) (idx : Nat) (x : Bool) (hj : j ≠ idx) : Keep j a b s (s.remove idx x).1 :=
  remove_state s idx x (Keep.refl _ _ _ _) (fun _ _ _ => keep_of_eq _ _ _ _ _ rfl rfl rfl rfl)
    (fun _ _ _ => (keep_of_eq _ _ _ s _ rfl rfl rfl rfl).trans (keep_dropped_ne j a b _ idx hj))

theorem idx_ne (s : Db) (i : RegionId) (idx j : Nat) (slj : Slot) (hf : s.findId i = some idx) (hsj : s.slot? j = some slj)
    (hne : ¬ i = slj.md.id) : j ≠ idx := by
  obtain ⟨sl, hsl, hi⟩ := findId_some hf
  intro he; subst he; rw [hsj] at hsl; cases hsl; exact hne hi.symm

theorem keep_removeId (j a b : Nat) (s : Db) (id : RegionId) (x : Bool) (slj : Slot) (hs : s.slot? j = some slj) (hid : slj.md.id ≠ id) :
    Keep j a b s (s.removeId id x).1 :=
  removeId_cases (P := fun r => Keep j a b s r.1) s id x (fun _ => Keep.refl _ _ _ _)
    (fun idx hf => keep_remove j a b s idx x (idx_ne s id idx j slj hf hs (Ne.symm hid)))

theorem keep_retain (j a b : Nat) (s : Db) (keep : List RegionId) (slj : Slot) (hs : s.slot? j = some slj) (hk : keep.contains slj.md.id = true) :
    Keep j a b s (s.retain keep).1 :=
  retain_ind (P := fun r => Keep j a b s r.1) s keep (Keep.refl _ _ _ _) (fun t i ht ⟨sl, hsl, hc⟩ =>
    ht.trans (keep_remove j a b t i false (fun e => by subst e; rw [hs] at hsl; cases hsl; rw [hk] at hc; cases hc)))

theorem av_noStore (j a b : Nat) (e : Event) (h : NoStore e) : Av j a b e := by
  cases e <;> first | trivial | exact h.elim

theorem keep_flagsOnly (j a b : Nat) (s t : Db) (h : FlagsOnly s t) : Keep j a b s t := by
  obtain ⟨sl', evs, hmd, hev, rfl⟩ := h
  exact ⟨slot?_md_congr hmd j, ⟨evs, rfl, fun e he => av_noStore j a b e (hev e he)⟩, Nat.le_refl _, Nat.le_refl _⟩

theorem keep_regionFlush (j a b : Nat) (s : Db) (idx : Nat) : Keep j a b s (s.regionFlush idx).1 :=
  keep_flagsOnly j a b s _ (flagsOnly_regionFlush s idx)

theorem keep_flush (j a b : Nat) (s : Db) : Keep j a b s s.flush.1 := by
  rw [Db.flush_eq]
  exact (keep_flagsOnly j a b s _ (flagsOnly_flushPre s)).trans (keep_of_eq _ _ _ _ _ rfl rfl rfl rfl)

theorem keep_punchHoles (j : Nat) (s : Db) (h : LInv s) (slj : Slot) (hs : s.slot? j = some slj)
    (hcr : ceilPage slj.md.len ≤ slj.md.reserved) :
    Keep j slj.md.start (slj.md.start + ceilPage slj.md.len) s s.punchHoles :=
  punchHoles_ind (P := Keep j slj.md.start (slj.md.start + ceilPage slj.md.len) s) s (Keep.refl _ _ _ _)
    (fun t r hr hp => hp.trans (keep_of_log _ _ _ t _ [_] rfl rfl
      (av_single (by have := punchCand_apart s h r hr j slj hs; show _ ∨ _; omega)) (Nat.le_refl _) (Nat.le_refl _)))
    (fun t hp => hp.trans (keep_emit _ _ _ _ _ trivial))

theorem keep_writeWith (j : Nat) (s : Db) (hinv : RInv s) (hi : InF s) (idx : Nat) (slj : Slot) (d : List UInt8) (at_ : Option Nat) (tr : Bool)
    (hsj : s.slot? j = some slj) (hj : j ≠ idx) (b : Nat) (hb : b ≤ slj.md.start + slj.md.reserved) :
    Keep j slj.md.start b s (s.writeWith idx d at_ tr).1 := by
  cases hs : s.slot? idx with
  | none => rw [writeWith_absent hs]; exact Keep.refl _ _ _ _
  | some sl =>
    obtain ⟨t, A, N, k, e, hap⟩ := writeWith_foot s idx sl d at_ tr hs
    have := hap hinv.lay (hinv.bnd idx sl hs).1 j slj hj hsj
    have hfile : b ≤ s.fileLen := by have := inE_slot s hi j slj hsj; rw [hi.1]; omega
    exact keep_wend j _ b idx sl s t _ hj (k.2 j _ b hj (by omega) hfile) e

theorem keep_createAt (j a b : Nat) (s1 : Db) (id : RegionId) (start : Nat) (x : Slot) (hx : s1.slot? j = some x)
    (hjr : j < s1.rfile.length) : Keep j a b s1 (createAt s1 id start).1 := by
  refine createAt_cases (P := fun r => Keep j a b s1 r.1) s1 id start (fun _ => Keep.refl _ _ _ _) (fun _ => ?_)
  -- slot `j` is live, so it is not the free slot that is filled
  obtain ⟨hfree, hle⟩ := freeIdx_free s1
  have hne : j ≠ freeIdx s1 := fun e => by rw [e, hfree] at hx; cases hx
  obtain ⟨_, r1, r2, r3, _⟩ := added_rest s1 (freeIdx s1) start id
  obtain ⟨_, ⟨evs, hlog, hav⟩, _, hrl⟩ := keep_regionsSetMinSlots j a b s1 (freeIdx s1 + 1) hjr
  refine ⟨?_, ⟨evs, by rw [r2]; exact hlog, hav⟩, Nat.le_of_eq r3.symm, by rw [r1]; exact hrl⟩
  rw [added_slot? s1 _ start id hle j, if_neg hne]

theorem keep_create (j a b : Nat) (s : Db) (id : RegionId) (slj : Slot) (hsj : s.slot? j = some slj) (hb : b ≤ s.fileLen)
    (hjr : j < s.rfile.length) :
    Keep j a b s (s.create id).1 := by
  have k0 : Keep j a b s (createPre s) :=
    createPre_cases (P := Keep j a b s) s (fun _ => Keep.refl _ _ _ _) (fun _ => keep_setMinLen _ _ _ _ _ hb)
  obtain ⟨x, hx, _⟩ := md_of_keep k0 slj hsj
  have hjr0 : j < (createPre s).rfile.length := Nat.lt_of_lt_of_le hjr k0.2.2.2
  exact create_cases (P := fun r => Keep j a b s r.1) s id (fun _ _ => Keep.refl _ _ _ _) (fun _ _ _ _ _ => k0)
    (fun hstart hs _ _ _ => (k0.trans (keep_of_eq j a b _ { createPre s with holes := hs } rfl rfl rfl rfl)).trans
      (keep_createAt j a b { createPre s with holes := hs } id hstart x hx hjr0))
    (fun _ _ => k0.trans (keep_createAt j a b _ id _ x hx hjr0))

/-- the request modifies (or may modify) the region called `id` -/
def Touches (id : RegionId) : Op → Prop
  | .write i _ => i = id
  | .writeAt i _ _ => i = id
  | .truncateWrite i _ _ => i = id
  | .truncate i _ => i = id
  | .rename i _ => i = id
  | .remove i => i = id
  | .removeHeld i => i = id
  | .regionFlush i => i = id
  | .retain keep => keep.contains id = false
  | .reopen _ => True
  | _ => False

/-- C05, one request that does not name region `j`: its metadata stays, and nothing the request stores lands in the pages
that hold its data, nor is a file cut below them -/
theorem keep_step (s : Db) (op : Op) (hinv : RInv s) (hi : InF s) (ha : Al s) (j : Nat) (slj : Slot) (hsj : s.slot? j = some slj)
    (hnt : ¬Touches slj.md.id op) (hjr : j < s.rfile.length) :
    Keep j slj.md.start (slj.md.start + ceilPage slj.md.len) s (step s op).1 := by
  have hbj := hinv.bnd j slj hsj
  have hcr : ceilPage slj.md.len ≤ slj.md.reserved := ceil_le_reserved _ _ hbj.1 (alE_slot s ha j slj hsj).2
  have hb : slj.md.start + ceilPage slj.md.len ≤ slj.md.start + slj.md.reserved := by omega
  have hfile : slj.md.start + ceilPage slj.md.len ≤ s.fileLen := by have := inE_slot s hi j slj hsj; rw [hi.1]; omega
  have hreg : ∀ (i : RegionId) (f : Nat → Db × Out), ¬ i = slj.md.id →
      (∀ idx, j ≠ idx → Keep j slj.md.start (slj.md.start + ceilPage slj.md.len) s (f idx).1) →
      Keep j slj.md.start (slj.md.start + ceilPage slj.md.len) s (s.withRegion i f).1 :=
    fun i f hne hf => withRegion_cases (P := fun r => Keep j _ _ s r.1) s i f (fun _ => Keep.refl _ _ _ _)
      (fun idx hfi => hf idx (idx_ne s i idx j slj hfi hsj hne))
  have hwr : ∀ (i : RegionId) (d : List UInt8) (at_ : Option Nat) (tr : Bool), ¬ i = slj.md.id →
      Keep j slj.md.start (slj.md.start + ceilPage slj.md.len) s (s.withRegion i (fun k => s.writeWith k d at_ tr)).1 :=
    fun i d at_ tr hne => hreg i _ hne fun idx hj => keep_writeWith j s hinv hi idx slj d at_ tr hsj hj _ hb
  cases op with
  | create id => exact keep_create j _ _ s id slj hsj hfile hjr
  | write i d => exact hwr i d none false hnt
  | writeAt i a d => exact hwr i d (some a) false hnt
  | truncateWrite i a d => exact hwr i d (some a) true hnt
  | truncate i n => exact hreg i _ hnt fun idx hj => keep_truncate j _ _ s idx n hj
  | rename i n => exact hreg i _ hnt fun idx hj => keep_rename j _ _ s idx n hj
  | remove i => exact keep_removeId j _ _ s i false slj hsj (fun h => hnt h.symm)
  | removeHeld i => exact keep_removeId j _ _ s i true slj hsj (fun h => hnt h.symm)
  | retain ids =>
    refine keep_retain j _ _ s ids slj hsj ?_
    cases hc : ids.contains slj.md.id with
    | true => rfl
    | false => exact absurd hc hnt
  | flush => exact keep_flush j _ _ s
  | regionFlush i => exact hreg i _ hnt fun idx _ => keep_regionFlush j _ _ s idx
  | compact =>
    show Keep j _ _ s s.compact.1
    rw [compact_eq]
    have kf := keep_flush j slj.md.start (slj.md.start + ceilPage slj.md.len) s
    obtain ⟨slj', hsj', hmd⟩ := md_of_keep kf slj hsj
    have kp := keep_punchHoles j s.flush.1 (linv_flush s hinv.lay) slj' hsj' (by rw [hmd]; exact hcr)
    rw [hmd] at kp
    exact kf.trans kp
  | reopen n => exact absurd trivial hnt
  | setMinLen n => exact keep_setMinLen j _ _ s n hfile
  | setMinRegions n =>
    have k := keep_regionsSetMinSlots j slj.md.start (slj.md.start + ceilPage slj.md.len) s n hjr
    show Keep j _ _ s (s.setMinRegions n)
    rw [setMinRegions_eq]
    exact k.trans (keep_setMinLen j _ _ _ _ (Nat.le_trans hfile k.2.2.1))

end AnyDB.C05r
