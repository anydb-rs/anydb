import AnyDB.Lemmas.RawdbPrims

/-!
The operations of `Model/Rawdb.lean`, unfolded once: the proofs about them read the statements of this file, and those of
`Lemmas/RawdbPrims.lean` for the primitives the operations are chains of.

An operation gets a table: for a result `(t, o)`, every answer `o` it can give, the condition under which it gives it, and the
state `t` it leaves — as the chain of primitives applied; a panic may stop an operation half way, and the table says where.  A
dispatching function or a loop gets a case or induction principle.  `create` is cut into stages, each with its own definition:
`createPre` (the unlocked pre-check), then the placement, then `createAt` (the name is validated and the region `added` as a
`fresh` slot at `freeIdx`).  `FlagsOnly` is what `flush` before the promotion and `Region::flush` change: dirty bounds, metadata
states, and log entries that store nothing (`NoStore`).  `reopen` is not here: its closed form is `reopen_eq` in
`Lemmas/LayoutReopen.lean`, over `slotsRead`, `triplesUpTo`, `grown` and `reopened`.

A table whose operation starts by looking up a slot has the absent slot as its first case; `spec_some` reads it for a slot
known to be there.
-/
namespace AnyDB

/-- How a table is read for a result that is not named: `(pair_of_snd rfl : s.op … = _)` is `s.op … = ((s.op …).1, (s.op …).2)`,
and `pair_of_snd h`, for `h : (s.op …).2 = o`, puts `o` in. -/
theorem pair_of_snd {α β : Type} {p : α × β} {b : β} (h : p.2 = b) : p = (p.1, b) := by
  cases p; cases h; rfl

namespace Db

theorem spec_some {s : Db} {idx : Nat} {sl : Slot} {A : Prop} {B : Slot → Prop} (hs : s.slot? idx = some sl)
    (h : (s.slot? idx = none ∧ A) ∨ ∃ sl', s.slot? idx = some sl' ∧ B sl') : B sl := by
  rcases h with ⟨h0, _⟩ | ⟨sl', hs', hb⟩
  · rw [hs] at h0; cases h0
  · rw [hs] at hs'; cases hs'; exact hb

/-- The end that paths 2 and 3 of `write_with` share, from the state `s` in which the reservation has grown: `sl` is the slot
after `metaSetReserved`, `off` the offset of the write in the file, `wo` its offset inside the region. -/
def WriteTail (s : Db) (idx : Nat) (sl : Slot) (off : Nat) (d : List UInt8) (wo nl : Nat) (t : Db) (o : Out) : Prop :=
  (s.dataWrite off d = none ∧ t = s ∧ o = .panic "write_to_mmap") ∨
  ∃ s1, s.dataWrite off d = some s1 ∧ t = s1.finishWrite idx sl wo d.length nl ∧ o = .ok

theorem writeFits_spec {s t : Db} {o : Out} {idx : Nat} {sl : Slot} {d : List UInt8} {wo nl : Nat}
    (h : s.writeFits idx sl d wo nl = (t, o)) :
    (s.dataWrite (sl.md.start + wo) d = none ∧ t = s ∧ o = .panic "write_to_mmap") ∨
    ∃ s1, s.dataWrite (sl.md.start + wo) d = some s1 ∧ o = .ok ∧
      ((nl ≠ sl.md.len ∧ t = s1.writeIfDirty idx (metaSetLen (markDirty sl wo d.length) nl)) ∨
       (nl = sl.md.len ∧ t = s1.setSlot idx (some (markDirty sl wo d.length)))) := by
  unfold writeFits at h
  split at h
  · rename_i hw
    cases h
    exact Or.inl ⟨hw, rfl, rfl⟩
  · rename_i s1 hw
    refine Or.inr ⟨s1, hw, ?_⟩
    simp only [] at h
    split at h
    · rename_i hn
      cases h
      exact ⟨rfl, Or.inl ⟨hn, rfl⟩⟩
    · rename_i hn
      cases h
      exact ⟨rfl, Or.inr ⟨Decidable.not_not.mp hn, rfl⟩⟩

/-- A fitting write that succeeded, whichever way the slot was stored (`write_if_dirty`, or `set_slot` when the length stays):
the data is in the image and the slot holds the new length; the metadata file and the log are left open (`R`, `L`). -/
theorem writeFits_ok {s t : Db} {idx : Nat} {sl : Slot} {d : List UInt8} {wo nl : Nat}
    (h : s.writeFits idx sl d wo nl = (t, .ok)) :
    ∃ m X R L, s.mem.writeAt (sl.md.start + wo) d = some m ∧ X.md = { sl.md with len := nl } ∧
      t = { s with mem := m, slots := s.slots.set idx (some X), rfile := R, log := L } := by
  rcases writeFits_spec h with ⟨_, _, e⟩ | ⟨s1, hw, _, ht⟩
  · cases e
  obtain ⟨m, hm, rfl⟩ := dataWrite_eq_some hw
  rcases ht with ⟨_, e⟩ | ⟨hn, e⟩
  · exact ⟨m, stored (metaSetLen (markDirty sl wo d.length) nl), _, _, hm, by rw [stored_md, metaSetLen_md]; rfl,
      e.trans (writeIfDirty_eq _ idx _)⟩
  · exact ⟨m, markDirty sl wo d.length, _, _, hm, by rw [hn]; rfl, e⟩

theorem writeExtendLast_spec {s t : Db} {o : Out} {idx : Nat} {sl : Slot} {d : List UInt8} {wo nl nr : Nat}
    (h : s.writeExtendLast idx sl d wo nl nr = (t, o)) :
    (Gen.MAX_RESERVED_SIZE < nr ∧ t = s ∧ o = .panic "set_reserved") ∨
    (nr ≤ Gen.MAX_RESERVED_SIZE ∧
      WriteTail ((s.setSlot idx (some (metaSetReserved sl nr))).setMinLen (sl.md.start + nr)) idx (metaSetReserved sl nr)
        (sl.md.start + wo) d wo nl t o) := by
  unfold writeExtendLast at h
  split at h
  · rename_i hmax
    cases h
    exact Or.inl ⟨hmax, rfl, rfl⟩
  · rename_i hmax
    refine Or.inr ⟨Nat.le_of_not_lt hmax, ?_⟩
    simp only [metaSetReserved_md] at h
    split at h
    · rename_i hw
      cases h
      exact Or.inl ⟨hw, rfl, rfl⟩
    · rename_i s3 hw
      cases h
      exact Or.inr ⟨s3, hw, rfl, rfl⟩

theorem writeExpand_spec {s t : Db} {o : Out} {idx : Nat} {sl : Slot} {d : List UInt8} {wo nl nr : Nat}
    (h : s.writeExpand idx sl d wo nl nr = (t, o)) :
    (∃ e, removeOrCompress s.holes (sl.md.start + sl.md.reserved) (nr - sl.md.reserved) = .error e ∧ t = s ∧ o = .err e) ∨
    ∃ hs, removeOrCompress s.holes (sl.md.start + sl.md.reserved) (nr - sl.md.reserved) = .ok hs ∧
      ((Gen.MAX_RESERVED_SIZE < nr ∧ t = { s with holes := hs } ∧ o = .panic "set_reserved") ∨
       (nr ≤ Gen.MAX_RESERVED_SIZE ∧
         WriteTail (({ s with holes := hs } : Db).setSlot idx (some (metaSetReserved sl nr))) idx (metaSetReserved sl nr)
           (sl.md.start + wo) d wo nl t o)) := by
  unfold writeExpand at h
  split at h
  · rename_i e he
    cases h
    exact Or.inl ⟨e, he, rfl, rfl⟩
  · rename_i hs hrc
    refine Or.inr ⟨hs, hrc, ?_⟩
    split at h
    · rename_i hmax
      cases h
      exact Or.inl ⟨hmax, rfl, rfl⟩
    · rename_i hmax
      refine Or.inr ⟨Nat.le_of_not_lt hmax, ?_⟩
      simp only [metaSetReserved_md] at h
      split at h
      · rename_i hw
        cases h
        exact Or.inl ⟨hw, rfl, rfl⟩
      · rename_i s3 hw
        cases h
        exact Or.inr ⟨s3, hw, rfl, rfl⟩

theorem placeRelocation_spec {s : Db} {nr : Nat} {r : Except ErrKind (Db × Nat)} (h : s.placeRelocation nr = r) :
    (∃ e ns, bestFit s.holes nr = some ns ∧ removeOrCompress s.holes ns nr = .error e ∧ r = .error e) ∨
    (∃ hs ns, bestFit s.holes nr = some ns ∧ removeOrCompress s.holes ns nr = .ok hs ∧
      r = .ok ({ s with holes := hs, reserved := s.reserved ++ [(ns, nr)] }, ns)) ∨
    (bestFit s.holes nr = none ∧
      r = .ok (({ s with reserved := s.reserved ++ [(s.layoutLen, nr)] } : Db).setMinLen (s.layoutLen + nr), s.layoutLen)) := by
  unfold placeRelocation at h
  split at h
  · rename_i ns hb
    split at h
    · rename_i e he
      exact Or.inl ⟨e, ns, hb, he, h.symm⟩
    · rename_i hs hrc
      exact Or.inr (Or.inl ⟨hs, ns, hb, hrc, h.symm⟩)
  · rename_i hb
    exact Or.inr (Or.inr ⟨hb, h.symm⟩)

/-- `t` differs from `s` in the layout maps (`regions`, `holes`, `reserved`, `pending`) only -/
def LayoutOnly (s t : Db) : Prop :=
  t.fileLen = s.fileLen ∧ t.mem = s.mem ∧ t.slots = s.slots ∧ t.rfile = s.rfile ∧ t.log = s.log

/-- the table read for a placement that succeeded: into the best-fitting hole, or at the end of the allocated area -/
theorem placeRelocation_placed {s p : Db} {nr ns : Nat} (h : s.placeRelocation nr = .ok (p, ns)) :
    (∃ hs, bestFit s.holes nr = some ns ∧ removeOrCompress s.holes ns nr = .ok hs ∧
      p = { s with holes := hs, reserved := s.reserved ++ [(ns, nr)] }) ∨
    (bestFit s.holes nr = none ∧ ns = s.layoutLen ∧
      p = ({ s with reserved := s.reserved ++ [(s.layoutLen, nr)] } : Db).setMinLen (s.layoutLen + nr)) := by
  rcases placeRelocation_spec h with ⟨_, _, _, _, e⟩ | ⟨hs, _, hb, hrc, e⟩ | ⟨hb, e⟩
  · cases e
  · cases e; exact Or.inl ⟨hs, hb, hrc, rfl⟩
  · cases e; exact Or.inr ⟨hb, rfl, rfl⟩

/-- Placing a relocation changes the layout maps (`q`) and then, at the end of the allocated area, makes room in the file; `n = 0`
when the target is a hole. -/
theorem placeRelocation_rest {s p : Db} {nr ns : Nat} (h : s.placeRelocation nr = .ok (p, ns)) :
    ∃ q n, LayoutOnly s q ∧ p = q.setMinLen n := by
  rcases placeRelocation_placed h with ⟨hs, _, _, rfl⟩ | ⟨_, _, rfl⟩
  · exact ⟨{ s with holes := hs, reserved := s.reserved ++ [(ns, nr)] }, 0, ⟨rfl, rfl, rfl, rfl, rfl⟩, (setMinLen_zero _).symm⟩
  · exact ⟨{ s with reserved := s.reserved ++ [(s.layoutLen, nr)] }, _, ⟨rfl, rfl, rfl, rfl, rfl⟩, rfl⟩

/-- `p`: the state `placeRelocation` has left, in which `ns` is reserved (so named in `writeGrow_spec`); `q`: the state after
`Layout::move_region` and `take_reserved`. -/
theorem writeRelocate_spec {p t : Db} {o : Out} {idx : Nat} {sl : Slot} {d : List UInt8} {wo nl nr cl ns : Nat}
    (h : p.writeRelocate idx sl d wo nl nr cl ns = (t, o)) :
    (∃ o', p.dataCopy sl.md.start ns cl = .error o' ∧ t = p ∧ o = o') ∨
    ∃ s1, p.dataCopy sl.md.start ns cl = .ok s1 ∧
      ((s1.dataWrite (ns + wo) d = none ∧ t = s1 ∧ o = .panic "write_to_mmap") ∨
       ∃ s2, s1.dataWrite (ns + wo) d = some s2 ∧
        ((alGet s2.regions sl.md.start ≠ some idx ∧ t = { s2 with regions := alErase s2.regions sl.md.start } ∧
            o = .err .regionIndexMismatch) ∨
         (alGet s2.regions sl.md.start = some idx ∧
           ∃ q : Db, q = { s2 with regions := alErase s2.regions sl.md.start ++ [(ns, idx)],
                                   pending := sortedInsert s2.pending sl.md.start sl.md.reserved,
                                   reserved := alErase s2.reserved ns } ∧
            ((alGet s2.reserved ns ≠ some nr ∧ t = q ∧ o = .panic "take_reserved") ∨
             (alGet s2.reserved ns = some nr ∧
               ((Gen.MAX_RESERVED_SIZE < nr ∧ t = q ∧ o = .panic "set_reserved") ∨
                (nr ≤ Gen.MAX_RESERVED_SIZE ∧ o = .ok ∧
                  t = q.writeIfDirty idx (metaSetLen (metaSetReserved (metaSetStart (markDirty sl 0 nl) ns) nr) nl)))))))) := by
  unfold writeRelocate at h
  split at h
  · rename_i o' hc
    cases h
    exact Or.inl ⟨_, hc, rfl, rfl⟩
  · rename_i s1 hc
    refine Or.inr ⟨s1, hc, ?_⟩
    split at h
    · rename_i hw
      cases h
      exact Or.inl ⟨hw, rfl, rfl⟩
    · rename_i s2 hw
      refine Or.inr ⟨s2, hw, ?_⟩
      rcases layoutRemoveRegion_eq s2 idx sl.md.start sl.md.reserved with ⟨hg, e⟩ | ⟨hg, e⟩
      · refine Or.inr ⟨hg, _, rfl, ?_⟩
        rw [e] at h
        simp only [Bool.not_true, Bool.false_eq_true, if_false] at h
        split at h
        · rename_i hres
          cases h
          exact Or.inl ⟨by simpa using hres, rfl, rfl⟩
        · rename_i hres
          refine Or.inr ⟨by simpa using hres, ?_⟩
          split at h
          · rename_i hmax
            cases h
            exact Or.inl ⟨hmax, rfl, rfl⟩
          · rename_i hmax
            cases h
            exact Or.inr ⟨Nat.le_of_not_lt hmax, rfl, rfl⟩
      · rw [e] at h
        simp only [Bool.not_false, if_true] at h
        cases h
        exact Or.inl ⟨hg, rfl, rfl⟩

theorem writeGrow_spec {s t : Db} {o : Out} {idx : Nat} {sl : Slot} {d : List UInt8} {wo nl cl : Nat}
    (h : s.writeGrow idx sl d wo nl cl = (t, o)) :
    (sl.md.reserved = 0 ∧ t = s ∧ o = .err .invariantViolation) ∨
    (sl.md.reserved ≠ 0 ∧ growReserved 64 sl.md.reserved nl = none ∧ t = s ∧ o = .err .regionSizeOverflow) ∨
    ∃ nr, sl.md.reserved ≠ 0 ∧ growReserved 64 sl.md.reserved nl = some nr ∧
      ((s.isLastAnything idx = true ∧ s.writeExtendLast idx sl d wo nl nr = (t, o)) ∨
       (s.isLastAnything idx = false ∧ s.canExpand sl nr = true ∧ s.writeExpand idx sl d wo nl nr = (t, o)) ∨
       (s.isLastAnything idx = false ∧ s.canExpand sl nr = false ∧
         ((∃ e, s.placeRelocation nr = .error e ∧ t = s ∧ o = .err e) ∨
          ∃ p ns, s.placeRelocation nr = .ok (p, ns) ∧ p.writeRelocate idx sl d wo nl nr cl ns = (t, o)))) := by
  unfold writeGrow at h
  simp only [] at h
  split at h
  · rename_i h0
    cases h
    exact Or.inl ⟨h0, rfl, rfl⟩
  · rename_i h0
    split at h
    · rename_i hg
      cases h
      exact Or.inr (Or.inl ⟨h0, hg, rfl, rfl⟩)
    · rename_i nr hg
      refine Or.inr (Or.inr ⟨nr, h0, hg, ?_⟩)
      split at h
      · rename_i hl
        exact Or.inl ⟨hl, h⟩
      · rename_i hl
        have hl' : s.isLastAnything idx = false := Bool.eq_false_iff.mpr hl
        split at h
        · rename_i hc
          exact Or.inr (Or.inl ⟨hl', hc, h⟩)
        · rename_i hc
          refine Or.inr (Or.inr ⟨hl', Bool.eq_false_iff.mpr hc, ?_⟩)
          split at h
          · rename_i e he
            cases h
            exact Or.inl ⟨e, he, rfl, rfl⟩
          · rename_i p ns hp
            exact Or.inr ⟨p, ns, hp, h⟩

theorem writeWith_spec {s t : Db} {o : Out} {idx : Nat} {d : List UInt8} {at_ : Option Nat} {tr : Bool}
    (h : s.writeWith idx d at_ tr = (t, o)) :
    (s.slot? idx = none ∧ t = s ∧ o = .err .noSuchRegion) ∨
    ∃ sl, s.slot? idx = some sl ∧
      ((outOfBounds at_ sl.md.len = true ∧ t = s ∧ o = .err .writeOutOfBounds) ∨
       (outOfBounds at_ sl.md.len = false ∧
         ((newLenOf at_ tr sl.md.len d.length ≤ sl.md.reserved ∧
             s.writeFits idx sl d (at_.getD sl.md.len) (newLenOf at_ tr sl.md.len d.length) = (t, o)) ∨
          (sl.md.reserved < newLenOf at_ tr sl.md.len d.length ∧
             s.writeGrow idx sl d (at_.getD sl.md.len) (newLenOf at_ tr sl.md.len d.length)
               (if tr then at_.getD sl.md.len else sl.md.len) = (t, o))))) := by
  unfold writeWith at h
  split at h
  · rename_i hs
    cases h
    exact Or.inl ⟨hs, rfl, rfl⟩
  · rename_i sl hs
    refine Or.inr ⟨sl, hs, ?_⟩
    simp only [] at h
    split at h
    · rename_i hb
      cases h
      exact Or.inl ⟨hb, rfl, rfl⟩
    · rename_i hb
      refine Or.inr ⟨Bool.eq_false_iff.mpr hb, ?_⟩
      split at h
      · rename_i hf
        exact Or.inl ⟨hf, h⟩
      · rename_i hf
        exact Or.inr ⟨Nat.lt_of_not_le hf, h⟩

theorem writeWith_absent {s : Db} {idx : Nat} (hs : s.slot? idx = none) (d : List UInt8) (at_ : Option Nat) (tr : Bool) :
    s.writeWith idx d at_ tr = (s, .err .noSuchRegion) := by
  unfold writeWith; simp only [hs]

/-- the error kinds with which the growing paths of `write_with` can answer -/
def Internal (k : ErrKind) : Prop :=
  k = .invariantViolation ∨ k = .regionSizeOverflow ∨ k = .holeTooSmall ∨ k = .overlappingCopyRanges ∨ k = .regionIndexMismatch

theorem writeWith_out {s t : Db} {o : Out} {idx : Nat} {sl : Slot} {d : List UInt8} {at_ : Option Nat} {tr : Bool}
    (hs : s.slot? idx = some sl) (h : s.writeWith idx d at_ tr = (t, o)) :
    (outOfBounds at_ sl.md.len = true ∧ t = s ∧ o = .err .writeOutOfBounds) ∨
    (outOfBounds at_ sl.md.len = false ∧ (o = .ok ∨ (∃ m, o = .panic m) ∨ ∃ k, o = .err k ∧ Internal k)) := by
  rcases spec_some hs (writeWith_spec h) with h1 | ⟨hoob, hp⟩
  · exact Or.inl h1
  refine Or.inr ⟨hoob, ?_⟩
  have tail : ∀ {s2 : Db} {sl' : Slot} {off wo nl : Nat}, WriteTail s2 idx sl' off d wo nl t o →
      o = .ok ∨ (∃ m, o = .panic m) ∨ ∃ k, o = .err k ∧ Internal k := by
    intro s2 sl' off wo nl ht
    rcases ht with ⟨_, _, e⟩ | ⟨_, _, _, e⟩
    · exact Or.inr (Or.inl ⟨_, e⟩)
    · exact Or.inl e
  rcases hp with ⟨_, hf⟩ | ⟨_, hg⟩
  · rcases writeFits_spec hf with ⟨_, _, e⟩ | ⟨_, _, e, _⟩
    · exact Or.inr (Or.inl ⟨_, e⟩)
    · exact Or.inl e
  · rcases writeGrow_spec hg with ⟨_, _, e⟩ | ⟨_, _, _, e⟩ | ⟨nr, _, _, hpath⟩
    · exact Or.inr (Or.inr ⟨_, e, Or.inl rfl⟩)
    · exact Or.inr (Or.inr ⟨_, e, Or.inr (Or.inl rfl)⟩)
    rcases hpath with ⟨_, hx⟩ | ⟨_, _, hx⟩ | ⟨_, _, ⟨e, he, _, e2⟩ | ⟨p, ns, _, hx⟩⟩
    · rcases writeExtendLast_spec hx with ⟨_, _, e⟩ | ⟨_, ht⟩
      · exact Or.inr (Or.inl ⟨_, e⟩)
      · exact tail ht
    · rcases writeExpand_spec hx with ⟨e, he, _, e1⟩ | ⟨_, _, ⟨_, _, e⟩ | ⟨_, ht⟩⟩
      · exact Or.inr (Or.inr ⟨e, e1, by rw [removeOrCompress_err he]; exact Or.inr (Or.inr (Or.inl rfl))⟩)
      · exact Or.inr (Or.inl ⟨_, e⟩)
      · exact tail ht
    · rcases placeRelocation_spec he with ⟨e', _, _, hrc, e3⟩ | ⟨_, _, _, _, e3⟩ | ⟨_, e3⟩
      · cases e3
        exact Or.inr (Or.inr ⟨e, e2, by rw [removeOrCompress_err hrc]; exact Or.inr (Or.inr (Or.inl rfl))⟩)
      · cases e3
      · cases e3
    · rcases writeRelocate_spec hx with ⟨o', hc, _, e⟩ | ⟨s1, _, ⟨_, _, e⟩ | ⟨s2, _, ⟨_, _, e⟩ | ⟨_, q, _, hq⟩⟩⟩
      · rcases dataCopy_spec hc with ⟨_, e3⟩ | ⟨_, _, e3⟩ | ⟨_, _, ⟨_, e3⟩ | ⟨_, ⟨_, e3⟩ | ⟨_, _, e3⟩⟩⟩
        · cases e3
        · cases e3
          exact Or.inr (Or.inr ⟨_, e, Or.inr (Or.inr (Or.inr (Or.inl rfl)))⟩)
        · cases e3
          exact Or.inr (Or.inl ⟨_, e⟩)
        · cases e3
          exact Or.inr (Or.inl ⟨_, e⟩)
        · cases e3
      · exact Or.inr (Or.inl ⟨_, e⟩)
      · exact Or.inr (Or.inr ⟨_, e, Or.inr (Or.inr (Or.inr (Or.inr rfl)))⟩)
      · rcases hq with ⟨_, _, e⟩ | ⟨_, ⟨_, _, e⟩ | ⟨_, e, _⟩⟩
        · exact Or.inr (Or.inl ⟨_, e⟩)
        · exact Or.inr (Or.inl ⟨_, e⟩)
        · exact Or.inl e

theorem writeWith_cases {P : Db × Out → Prop} (s : Db) (idx : Nat) (d : List UInt8) (at_ : Option Nat) (tr : Bool)
    (hsame : ∀ o, P (s, o))
    (hfits : ∀ sl, s.slot? idx = some sl → outOfBounds at_ sl.md.len = false →
      newLenOf at_ tr sl.md.len d.length ≤ sl.md.reserved →
      P (s.writeFits idx sl d (at_.getD sl.md.len) (newLenOf at_ tr sl.md.len d.length)))
    (hgrow : ∀ sl nr, s.slot? idx = some sl → outOfBounds at_ sl.md.len = false →
      sl.md.reserved < newLenOf at_ tr sl.md.len d.length → sl.md.reserved ≠ 0 →
      growReserved 64 sl.md.reserved (newLenOf at_ tr sl.md.len d.length) = some nr →
      (s.isLastAnything idx = true →
        P (s.writeExtendLast idx sl d (at_.getD sl.md.len) (newLenOf at_ tr sl.md.len d.length) nr)) ∧
      (s.isLastAnything idx = false → s.canExpand sl nr = true →
        P (s.writeExpand idx sl d (at_.getD sl.md.len) (newLenOf at_ tr sl.md.len d.length) nr)) ∧
      (s.isLastAnything idx = false → s.canExpand sl nr = false → ∀ p ns, s.placeRelocation nr = .ok (p, ns) →
        P (p.writeRelocate idx sl d (at_.getD sl.md.len) (newLenOf at_ tr sl.md.len d.length) nr
          (if tr then at_.getD sl.md.len else sl.md.len) ns))) :
    P (s.writeWith idx d at_ tr) := by
  generalize hr : s.writeWith idx d at_ tr = r
  obtain ⟨t, o⟩ := r
  rcases writeWith_spec hr with ⟨_, rfl, _⟩ | ⟨sl, hs, ⟨_, rfl, _⟩ | ⟨hoob, ⟨hf, hx⟩ | ⟨hn, hx⟩⟩⟩
  · exact hsame _
  · exact hsame _
  · rw [← hx]; exact hfits sl hs hoob hf
  · rcases writeGrow_spec hx with ⟨_, rfl, _⟩ | ⟨_, _, rfl, _⟩ | ⟨nr, h0, hg, hpath⟩
    · exact hsame _
    · exact hsame _
    obtain ⟨p1, p2, p3⟩ := hgrow sl nr hs hoob hn h0 hg
    rcases hpath with ⟨hl, hy⟩ | ⟨hl, hc, hy⟩ | ⟨hl, hc, ⟨_, _, rfl, _⟩ | ⟨p, ns, hp, hy⟩⟩
    · rw [← hy]; exact p1 hl
    · rw [← hy]; exact p2 hl hc
    · exact hsame _
    · rw [← hy]; exact p3 hl hc p ns hp

theorem withRegion_cases {P : Db × Out → Prop} (s : Db) (id : RegionId) (f : Nat → Db × Out)
    (hnone : s.findId id = none → P (s, .err .noSuchRegion))
    (hsome : ∀ idx, s.findId id = some idx → P (f idx)) : P (s.withRegion id f) := by
  unfold withRegion
  cases hf : s.findId id with
  | none => exact hnone hf
  | some idx => exact hsome idx hf

/-- `create` after its unlocked pre-check -/
def createPre (s : Db) : Db :=
  if (bestFit s.holes Gen.PAGE_SIZE).isNone then s.setMinLen (s.layoutLen + Gen.PAGE_SIZE) else s

theorem createPre_cases {P : Db → Prop} (s : Db) (hsame : bestFit s.holes Gen.PAGE_SIZE ≠ none → P s)
    (hgrow : bestFit s.holes Gen.PAGE_SIZE = none → P (s.setMinLen (s.layoutLen + Gen.PAGE_SIZE))) : P (createPre s) := by
  unfold createPre
  cases hb : bestFit s.holes Gen.PAGE_SIZE with
  | none => rw [if_pos (show (none : Option Nat).isNone = true from rfl)]; exact hgrow hb
  | some a => rw [if_neg (show ¬(some a).isNone = true from Bool.false_ne_true)]; exact hsame (by rw [hb]; nofun)

def fresh (start : Nat) (id : RegionId) : Slot :=
  { md := { start := start, len := 0, reserved := Gen.PAGE_SIZE, id := id }, st := .needsWrite, dmin := USIZE_MAX, dmax := 0 }

def freeIdx (s : Db) : Nat := match s.slots.findIdx? (·.isNone) with | some i => i | none => s.slots.length

/-- what `create` does once the slot and the start are chosen -/
def added (s : Db) (idx start : Nat) (id : RegionId) : Db :=
  let s2 := s.regionsSetMinSlots (idx + 1)
  let s3 := if idx < s2.slots.length then s2.setSlot idx (some (fresh start id))
    else { s2 with slots := s2.slots ++ [some (fresh start id)] }
  { s3 with regions := s3.regions ++ [(start, idx)] }

def createAt (s : Db) (id : RegionId) (start : Nat) : Db × Out :=
  if !idValid id then (s, .panic "validate_id") else (added s (freeIdx s) start id, .okN (freeIdx s))

theorem createAt_cases {P : Db × Out → Prop} (s : Db) (id : RegionId) (start : Nat)
    (hbad : idValid id = false → P (s, .panic "validate_id"))
    (hok : idValid id = true → P (added s (freeIdx s) start id, .okN (freeIdx s))) : P (createAt s id start) := by
  unfold createAt
  cases hv : idValid id with
  | false => exact hbad hv
  | true => exact hok hv

theorem create_eq (s : Db) (id : RegionId) :
    s.create id = match s.findId id with
      | some idx => (s, .okN idx)
      | none => match bestFit (createPre s).holes Gen.PAGE_SIZE with
        | some hstart => match removeOrCompress (createPre s).holes hstart Gen.PAGE_SIZE with
          | .ok hs => createAt { createPre s with holes := hs } id hstart
          | .error e => (createPre s, .err e)
        | none => createAt (createPre s) id (createPre s).layoutLen := by
  unfold create createPre
  cases s.findId id with
  | some idx => rfl
  | none =>
    simp only []
    generalize (if (bestFit s.holes Gen.PAGE_SIZE).isNone = true then s.setMinLen (s.layoutLen + Gen.PAGE_SIZE) else s) = s0
    cases bestFit s0.holes Gen.PAGE_SIZE with
    | none => rfl
    | some hstart =>
      simp only []
      cases removeOrCompress s0.holes hstart Gen.PAGE_SIZE <;> rfl

theorem create_found {s : Db} {id : RegionId} {idx : Nat} (h : s.findId id = some idx) : s.create id = (s, .okN idx) := by
  rw [create_eq, h]

theorem create_cases {P : Db × Out → Prop} (s : Db) (id : RegionId)
    (hfound : ∀ idx, s.findId id = some idx → P (s, .okN idx))
    (hrefused : ∀ hstart e, s.findId id = none → bestFit (createPre s).holes Gen.PAGE_SIZE = some hstart →
      removeOrCompress (createPre s).holes hstart Gen.PAGE_SIZE = .error e → P (createPre s, .err e))
    (hhole : ∀ hstart hs, s.findId id = none → bestFit (createPre s).holes Gen.PAGE_SIZE = some hstart →
      removeOrCompress (createPre s).holes hstart Gen.PAGE_SIZE = .ok hs →
      P (createAt { createPre s with holes := hs } id hstart))
    (hend : s.findId id = none → bestFit (createPre s).holes Gen.PAGE_SIZE = none →
      P (createAt (createPre s) id (createPre s).layoutLen)) : P (s.create id) := by
  rw [create_eq]
  cases hf : s.findId id with
  | some idx => exact hfound idx hf
  | none =>
    simp only []
    cases hb : bestFit (createPre s).holes Gen.PAGE_SIZE with
    | none => exact hend hf hb
    | some hstart =>
      simp only []
      cases hrc : removeOrCompress (createPre s).holes hstart Gen.PAGE_SIZE with
      | error e => exact hrefused hstart e hf hb hrc
      | ok hs => exact hhole hstart hs hf hb hrc

theorem create_err {s t : Db} {id : RegionId} {k : ErrKind} (h : s.create id = (t, .err k)) : k = .holeTooSmall := by
  have hat : ∀ (s1 : Db) (start : Nat), createAt s1 id start = (t, .err k) → k = .holeTooSmall :=
    fun s1 start => createAt_cases (P := fun r => r = (t, .err k) → k = .holeTooSmall) s1 id start (fun _ e => nomatch e)
      (fun _ e => nomatch e)
  revert h
  refine create_cases (P := fun r => r = (t, .err k) → k = .holeTooSmall) s id (fun _ _ e => nomatch e)
    (fun _ e _ _ hrc h => ?_) (fun _ _ _ _ _ => hat _ _) (fun _ _ => hat _ _)
  cases h
  exact removeOrCompress_err hrc

/-- `freeIdx` against the search it abbreviates: the reference fills the first free entry it finds, or appends (`refStep`) -/
theorem freeIdx_eq (s : Db) :
    (∃ i, s.slots.findIdx? (·.isNone) = some i ∧ freeIdx s = i ∧ i < s.slots.length ∧ s.slots[i]?.join = none) ∨
    (s.slots.findIdx? (·.isNone) = none ∧ freeIdx s = s.slots.length) := by
  unfold freeIdx
  cases hfi : s.slots.findIdx? (·.isNone) with
  | none => exact Or.inr ⟨rfl, rfl⟩
  | some i =>
    obtain ⟨hi, hp, _⟩ := List.findIdx?_eq_some_iff_getElem.mp hfi
    refine Or.inl ⟨i, rfl, rfl, hi, ?_⟩
    rw [List.getElem?_eq_getElem hi]
    cases hx : s.slots[i] with
    | none => rfl
    | some v => rw [hx] at hp; cases hp

theorem freeIdx_free (s : Db) : s.slot? (freeIdx s) = none ∧ freeIdx s ≤ s.slots.length := by
  rcases freeIdx_eq s with ⟨i, _, e, hi, hn⟩ | ⟨_, e⟩
  · rw [e]; exact ⟨hn, Nat.le_of_lt hi⟩
  · rw [e]; exact ⟨congrArg Option.join (List.getElem?_eq_none (Nat.le_refl _)), Nat.le_refl _⟩

theorem added_slots (s : Db) (idx start : Nat) (id : RegionId) :
    (added s idx start id).slots =
      if idx < s.slots.length then s.slots.set idx (some (fresh start id)) else s.slots ++ [some (fresh start id)] := by
  have hs2 : (s.regionsSetMinSlots (idx + 1)).slots = s.slots := (regionsSetMinSlots_rest s (idx + 1)).2.2.1
  unfold added
  simp only [hs2]
  by_cases h : idx < s.slots.length
  · rw [if_pos h, if_pos h]
    exact congrArg (List.set · idx _) hs2
  · rw [if_neg h, if_neg h]

theorem added_slot? (s : Db) (idx start : Nat) (id : RegionId) (hidx : idx ≤ s.slots.length) (j : Nat) :
    (added s idx start id).slot? j = if j = idx then some (fresh start id) else s.slot? j := by
  have h := added_slots s idx start id
  by_cases hlt : idx < s.slots.length
  · rw [if_pos hlt] at h
    by_cases hj : j = idx
    · rw [if_pos hj, hj]; exact slot?_set_self h hlt
    · rw [if_neg hj]; exact slot?_set_ne h hj
  · rw [if_neg hlt] at h
    cases Nat.le_antisymm hidx (Nat.le_of_not_lt hlt)
    by_cases hj : j = s.slots.length
    · rw [if_pos hj, hj]; exact slot?_append_self h
    · rw [if_neg hj]; exact slot?_append_ne h hj

theorem added_rest (s : Db) (idx start : Nat) (id : RegionId) :
    (added s idx start id).regions = s.regions ++ [(start, idx)] ∧
    (added s idx start id).rfile = (s.regionsSetMinSlots (idx + 1)).rfile ∧
    (added s idx start id).log = (s.regionsSetMinSlots (idx + 1)).log ∧
    (added s idx start id).fileLen = s.fileLen ∧ (added s idx start id).mem = s.mem ∧
    (added s idx start id).holes = s.holes ∧ (added s idx start id).reserved = s.reserved ∧
    (added s idx start id).pending = s.pending := by
  obtain ⟨a1, a2, _, a3, a4, a5, a6⟩ := regionsSetMinSlots_rest s (idx + 1)
  unfold added
  generalize s.regionsSetMinSlots (idx + 1) = s2 at a1 a2 a3 a4 a5 a6 ⊢
  simp only []
  split
  · exact ⟨congrArg (· ++ [(start, idx)]) a3, rfl, rfl, a1, a2, a4, a5, a6⟩
  · exact ⟨congrArg (· ++ [(start, idx)]) a3, rfl, rfl, a1, a2, a4, a5, a6⟩

theorem truncate_spec {s t : Db} {o : Out} {idx n : Nat} (h : s.truncate idx n = (t, o)) :
    (s.slot? idx = none ∧ t = s ∧ o = .err .noSuchRegion) ∨
    ∃ sl, s.slot? idx = some sl ∧
      ((n = sl.md.len ∧ t = s ∧ o = .ok) ∨ (sl.md.len < n ∧ t = s ∧ o = .err .truncateInvalid) ∨
       (n < sl.md.len ∧ t = s.writeIfDirty idx (metaSetLen sl n) ∧ o = .ok)) := by
  unfold truncate at h
  split at h
  · rename_i hs
    cases h
    exact Or.inl ⟨hs, rfl, rfl⟩
  · rename_i sl hs
    refine Or.inr ⟨sl, hs, ?_⟩
    split at h
    · rename_i he
      cases h
      exact Or.inl ⟨he, rfl, rfl⟩
    · rename_i he
      split at h
      · rename_i hgt
        cases h
        exact Or.inr (Or.inl ⟨hgt, rfl, rfl⟩)
      · rename_i hgt
        cases h
        exact Or.inr (Or.inr ⟨Nat.lt_of_le_of_ne (Nat.le_of_not_gt hgt) he, rfl, rfl⟩)

/-- as a state transformer `truncate` does nothing or stores the shortened slot -/
theorem truncate_state {P : Db → Prop} (s : Db) (idx n : Nat) (h0 : P s)
    (h1 : ∀ sl, s.slot? idx = some sl → n < sl.md.len → P (s.writeIfDirty idx (metaSetLen sl n))) : P (s.truncate idx n).1 := by
  rcases truncate_spec (pair_of_snd rfl : s.truncate idx n = _) with ⟨_, e, _⟩ | ⟨sl, hs, ⟨_, e, _⟩ | ⟨_, e, _⟩ | ⟨hlt, e, _⟩⟩
  · rw [e]; exact h0
  · rw [e]; exact h0
  · rw [e]; exact h0
  · rw [e]; exact h1 sl hs hlt

theorem rename_spec {s t : Db} {o : Out} {idx : Nat} {nid : RegionId} (h : s.rename idx nid = (t, o)) :
    (s.slot? idx = none ∧ t = s ∧ o = .err .noSuchRegion) ∨
    ∃ sl, s.slot? idx = some sl ∧
      ((∃ j, s.findId nid = some j ∧ t = s ∧ o = .err .regionAlreadyExists) ∨
       (s.findId nid = none ∧ idValid nid = false ∧ t = s ∧ o = .panic "validate_id") ∨
       (s.findId nid = none ∧ idValid nid = true ∧ t = s.writeIfDirty idx (metaSetId sl nid) ∧ o = .ok)) := by
  unfold rename at h
  split at h
  · rename_i hs
    cases h
    exact Or.inl ⟨hs, rfl, rfl⟩
  · rename_i sl hs
    refine Or.inr ⟨sl, hs, ?_⟩
    cases hf : s.findId nid with
    | some j =>
      rw [hf, if_pos (show (some j).isSome = true from rfl)] at h
      cases h
      exact Or.inl ⟨j, rfl, rfl, rfl⟩
    | none =>
      rw [hf, if_neg (show ¬(none : Option Nat).isSome = true from Bool.false_ne_true)] at h
      split at h
      · rename_i hv
        cases h
        exact Or.inr (Or.inl ⟨rfl, by simpa using hv, rfl, rfl⟩)
      · rename_i hv
        cases h
        exact Or.inr (Or.inr ⟨rfl, by simpa using hv, rfl, rfl⟩)

/-- as a state transformer `rename` does nothing or stores the renamed slot -/
theorem rename_state {P : Db → Prop} (s : Db) (idx : Nat) (nid : RegionId) (h0 : P s)
    (h1 : ∀ sl, s.slot? idx = some sl → idValid nid = true → P (s.writeIfDirty idx (metaSetId sl nid))) : P (s.rename idx nid).1 := by
  rcases rename_spec (pair_of_snd rfl : s.rename idx nid = _) with ⟨_, e, _⟩ | ⟨sl, hs, ⟨_, _, e, _⟩ | ⟨_, _, e, _⟩ | ⟨_, hv, e, _⟩⟩
  · rw [e]; exact h0
  · rw [e]; exact h0
  · rw [e]; exact h0
  · rw [e]; exact h1 sl hs hv

/-- `Regions::remove` -/
def dropped (s : Db) (idx : Nat) : Db :=
  { s with slots := s.slots.set idx none, rfile := s.rfile.set idx none, log := s.log ++ [.metaWrite idx none] }

theorem remove_spec {s t : Db} {o : Out} {idx : Nat} {x : Bool} (h : s.remove idx x = (t, o)) :
    (s.slot? idx = none ∧ t = s ∧ o = .err .regionNotFound) ∨
    ∃ sl, s.slot? idx = some sl ∧
      ((x = true ∧ t = s ∧ o = .err .regionStillReferenced) ∨
       (x = false ∧ alGet s.regions sl.md.start ≠ some idx ∧ t = { s with regions := alErase s.regions sl.md.start } ∧
          o = .err .regionIndexMismatch) ∨
       (x = false ∧ alGet s.regions sl.md.start = some idx ∧ o = .ok ∧
          t = dropped { s with regions := alErase s.regions sl.md.start,
                               pending := sortedInsert s.pending sl.md.start sl.md.reserved } idx)) := by
  unfold remove at h
  split at h
  · rename_i hs
    cases h
    exact Or.inl ⟨hs, rfl, rfl⟩
  · rename_i sl hs
    refine Or.inr ⟨sl, hs, ?_⟩
    split at h
    · rename_i hx
      cases h
      exact Or.inl ⟨hx, rfl, rfl⟩
    · rename_i hx
      have hx' : x = false := Bool.eq_false_iff.mpr hx
      rcases layoutRemoveRegion_eq s idx sl.md.start sl.md.reserved with ⟨hg, e⟩ | ⟨hg, e⟩
      · rw [e] at h
        simp only [Bool.not_true, Bool.false_eq_true, if_false] at h
        cases h
        exact Or.inr (Or.inr ⟨hx', hg, rfl, rfl⟩)
      · rw [e] at h
        simp only [Bool.not_false, if_true] at h
        cases h
        exact Or.inr (Or.inl ⟨hx', hg, rfl, rfl⟩)

/-- as a state transformer `remove` does nothing, stops after `Layout::remove_region` found another region under the start, or
drops the slot -/
theorem remove_state {P : Db → Prop} (s : Db) (idx : Nat) (x : Bool) (h0 : P s)
    (hmis : ∀ sl, s.slot? idx = some sl → alGet s.regions sl.md.start ≠ some idx →
      P { s with regions := alErase s.regions sl.md.start })
    (hok : ∀ sl, s.slot? idx = some sl → alGet s.regions sl.md.start = some idx →
      P (dropped { s with regions := alErase s.regions sl.md.start,
                          pending := sortedInsert s.pending sl.md.start sl.md.reserved } idx)) : P (s.remove idx x).1 := by
  rcases remove_spec (pair_of_snd rfl : s.remove idx x = _) with ⟨_, e, _⟩ | ⟨sl, hs, ⟨_, e, _⟩ | ⟨_, hg, e, _⟩ | ⟨_, hg, _, e⟩⟩
  · rw [e]; exact h0
  · rw [e]; exact h0
  · rw [e]; exact hmis sl hs hg
  · rw [e]; exact hok sl hs hg

theorem removeId_cases {P : Db × Out → Prop} (s : Db) (id : RegionId) (x : Bool)
    (hnone : s.findId id = none → P (s, .err .regionNotFound))
    (hsome : ∀ idx, s.findId id = some idx → P (s.remove idx x)) : P (s.removeId id x) := by
  unfold removeId
  cases hf : s.findId id with
  | none => exact hnone hf
  | some idx => exact hsome idx hf

/-- removal while another handle is alive is refused before anything is touched -/
theorem removeId_held (s : Db) (id : RegionId) :
    s.removeId id true = (s, .err .regionNotFound) ∨ s.removeId id true = (s, .err .regionStillReferenced) := by
  refine removeId_cases (P := fun r => r = (s, .err .regionNotFound) ∨ r = (s, .err .regionStillReferenced)) s id true
    (fun _ => Or.inl rfl) (fun idx _ => ?_)
  rcases remove_spec (pair_of_snd rfl : s.remove idx true = _) with ⟨_, et, eo⟩ | ⟨_, _, ⟨_, et, eo⟩ | ⟨hx, _⟩ | ⟨hx, _⟩⟩
  · exact Or.inl (Prod.ext et eo)
  · exact Or.inr (Prod.ext et eo)
  · cases hx
  · cases hx

/-- the regions `retain_regions` removes -/
def victims (s : Db) (keep : List RegionId) : List Nat :=
  (List.range s.slots.length).filter (fun i => match s.slot? i with | some sl => !keep.contains sl.md.id | none => false)

theorem retain_eq (s : Db) (keep : List RegionId) :
    s.retain keep = (victims s keep).foldl (fun (acc : Db × Out) i =>
      match acc.2 with
      | .ok => acc.1.remove i false
      | _ => acc) (s, .ok) := rfl

theorem mem_victims {s : Db} {keep : List RegionId} {i : Nat} :
    i ∈ victims s keep ↔ ∃ sl, s.slot? i = some sl ∧ keep.contains sl.md.id = false := by
  unfold victims
  rw [List.mem_filter, List.mem_range]
  cases hs : s.slot? i with
  | none => simp
  | some sl => simpa using fun _ => slot?_lt hs

theorem victims_nodup (s : Db) (keep : List RegionId) : (victims s keep).Nodup :=
  List.Nodup.sublist List.filter_sublist List.nodup_range

theorem retain_ind {P : Db × Out → Prop} (s : Db) (keep : List RegionId) (h0 : P (s, .ok))
    (hstep : ∀ (t : Db) (i : Nat), P (t, .ok) → (∃ sl, s.slot? i = some sl ∧ keep.contains sl.md.id = false) →
      P (t.remove i false)) :
    P (s.retain keep) := by
  rw [retain_eq]
  have hv : ∀ i ∈ victims s keep, ∃ sl, s.slot? i = some sl ∧ keep.contains sl.md.id = false := fun i hi => mem_victims.mp hi
  generalize victims s keep = vs at hv
  suffices hh : ∀ (acc : Db × Out), P acc →
      P (vs.foldl (fun (acc : Db × Out) i => match acc.2 with | .ok => acc.1.remove i false | _ => acc) acc) from
    hh (s, .ok) h0
  induction vs with
  | nil => intro acc ha; exact ha
  | cons v t ih =>
    intro acc ha
    simp only [List.foldl_cons]
    have iht := ih (fun i hi => hv i (List.mem_cons_of_mem _ hi))
    split
    · rename_i hok
      obtain ⟨a, o⟩ := acc
      simp only at hok
      subst hok
      exact iht _ (hstep a v ha (hv v (List.mem_cons_self ..)))
    · exact iht _ ha

/-- an event that stores nothing and sets no length: a write-back request or a sync -/
def NoStore : Event → Prop
  | .flushAsync _ _ _ => True
  | .flushAsyncAll _ => True
  | .sync _ => True
  | _ => False

theorem noStore_nil : ∀ e ∈ ([] : List Event), NoStore e := fun _ h => nomatch h

/-- Of the dirty bounds only `dmax` is described, kept or reset to 0 (and `dmin` with it): that is what `FInv` needs to know
(`finv_regionFlush`, `Lemmas/RegionFile.lean`). -/
theorem regionFlush_spec {s t : Db} {o : Out} {idx : Nat} (h : s.regionFlush idx = (t, o)) :
    (s.slot? idx = none ∧ t = s ∧ o = .err .noSuchRegion) ∨
    ∃ sl X evs, s.slot? idx = some sl ∧ X.md = sl.md ∧ (X.st = sl.st ∨ (sl.st = .needsFlush ∧ X.st = .clean)) ∧
      (X.dmax = sl.dmax ∨ X.dmax = 0) ∧ (∀ e ∈ evs, NoStore e) ∧
      t = { s with slots := s.slots.set idx (some X), log := s.log ++ evs } ∧
      ((sl.st = .needsWrite ∧ o = .err .regionMetadataUnwritten) ∨ (sl.st ≠ .needsWrite ∧ ∃ n, o = .okN n)) := by
  unfold regionFlush at h
  split at h
  · rename_i hs
    cases h
    exact Or.inl ⟨hs, rfl, rfl⟩
  · rename_i sl hs
    refine Or.inr ⟨sl, ?_⟩
    simp only [] at h
    have ev1 : ∀ a : Event, NoStore a → ∀ e ∈ [a], NoStore e := fun a ha e he => by
      rw [List.mem_singleton.mp he]; exact ha
    have hst3 : sl.st = .needsWrite ∨ sl.st = .clean ∨ sl.st = .needsFlush := by
      cases sl.st
      · exact Or.inr (Or.inl rfl)
      · exact Or.inr (Or.inr rfl)
      · exact Or.inl rfl
    by_cases hb : sl.dmin < sl.dmax
    · simp only [hb, if_true, Option.isSome_some] at h
      rcases hst3 with hst | hst | hst
      · simp only [hst] at h
        cases h
        exact ⟨{ md := sl.md, st := .needsWrite, dmin := USIZE_MAX, dmax := 0 }, _, hs, rfl, Or.inl hst.symm, Or.inr rfl,
          ev1 _ (by trivial), rfl, Or.inl ⟨hst, rfl⟩⟩
      · simp only [hst] at h
        cases h
        refine ⟨{ md := sl.md, st := .clean, dmin := USIZE_MAX, dmax := 0 },
          [Event.flushAsync .data (sl.md.start + sl.dmin) (sl.dmax - sl.dmin), .sync .data, .sync .regions],
          hs, rfl, Or.inl hst.symm, Or.inr rfl,
          ?_, ?_, Or.inr ⟨by rw [hst]; exact nofun, _, rfl⟩⟩
        · intro e he
          simp only [List.mem_cons, List.not_mem_nil, or_false] at he
          rcases he with rfl | rfl | rfl <;> trivial
        · simp only [emit, setSlot, List.append_assoc, List.cons_append, List.nil_append]
      · simp only [hst] at h
        cases h
        refine ⟨{ md := sl.md, st := .clean, dmin := USIZE_MAX, dmax := 0 },
          [Event.flushAsync .data (sl.md.start + sl.dmin) (sl.dmax - sl.dmin),
            Event.flushAsync .regions (idx * Gen.SIZE_OF_REGION_METADATA) Gen.SIZE_OF_REGION_METADATA, .sync .data, .sync .regions],
          hs, rfl, Or.inr ⟨hst, rfl⟩, Or.inr rfl,
          ?_, ?_, Or.inr ⟨by rw [hst]; exact nofun, _, rfl⟩⟩
        · intro e he
          simp only [List.mem_cons, List.not_mem_nil, or_false] at he
          rcases he with rfl | rfl | rfl | rfl <;> trivial
        · simp only [emit, setSlot, List.set_set, List.append_assoc, List.cons_append, List.nil_append]
    · simp only [hb, if_false, Option.isSome_none, Bool.false_eq_true] at h
      rcases hst3 with hst | hst | hst
      · simp only [hst] at h
        cases h
        exact ⟨sl, [], hs, rfl, Or.inl rfl, Or.inl rfl, noStore_nil, by simp only [setSlot, List.append_nil],
          Or.inl ⟨hst, rfl⟩⟩
      · simp only [hst] at h
        cases h
        exact ⟨sl, [], hs, rfl, Or.inl rfl, Or.inl rfl, noStore_nil, by simp only [setSlot, List.append_nil],
          Or.inr ⟨by rw [hst]; exact nofun, _, rfl⟩⟩
      · simp only [hst] at h
        cases h
        refine ⟨{ sl with st := .clean },
          [Event.flushAsync .regions (idx * Gen.SIZE_OF_REGION_METADATA) Gen.SIZE_OF_REGION_METADATA, .sync .data, .sync .regions],
          hs, rfl, Or.inr ⟨hst, rfl⟩, Or.inl rfl, ?_, ?_,
          Or.inr ⟨by rw [hst]; exact nofun, _, rfl⟩⟩
        · intro e he
          simp only [List.mem_cons, List.not_mem_nil, or_false] at he
          rcases he with rfl | rfl | rfl <;> trivial
        · simp only [emit, setSlot, List.set_set, List.append_assoc, List.cons_append, List.nil_append]

/-- `t` is `s` up to the dirty bounds and metadata states of the slots and to write-back requests and syncs in the log -/
def FlagsOnly (s t : Db) : Prop :=
  ∃ (sl' : List (Option Slot)) (evs : List Event), sl'.map (Option.map (·.md)) = s.slots.map (Option.map (·.md)) ∧
    (∀ e ∈ evs, NoStore e) ∧ t = { s with slots := sl', log := s.log ++ evs }

theorem FlagsOnly.refl (s : Db) : FlagsOnly s s :=
  ⟨s.slots, [], rfl, noStore_nil, by rw [List.append_nil]⟩

theorem FlagsOnly.trans {a b c : Db} (h1 : FlagsOnly a b) (h2 : FlagsOnly b c) : FlagsOnly a c := by
  obtain ⟨s1, l1, m1, p1, rfl⟩ := h1
  obtain ⟨s2, l2, m2, p2, rfl⟩ := h2
  exact ⟨s2, l1 ++ l2, m2.trans m1, fun e he => (List.mem_append.mp he).elim (p1 e) (p2 e), by
    simp only [List.append_assoc]⟩

theorem flagsOnly_emit (s : Db) (e : Event) (h : NoStore e) : FlagsOnly s (s.emit e) :=
  ⟨s.slots, [e], rfl, fun x hx => by rw [List.mem_singleton.mp hx]; exact h, rfl⟩

theorem flagsOnly_setSlot (s : Db) (idx : Nat) (old X : Slot) (hs : s.slot? idx = some old) (hX : X.md = old.md) :
    FlagsOnly s (s.setSlot idx (some X)) :=
  ⟨_, [], map_md_set hs hX, noStore_nil, by rw [List.append_nil]; rfl⟩

theorem flagsOnly_takeAllDirty (s : Db) : FlagsOnly s s.takeAllDirty := by
  refine ⟨_, [], ?_, noStore_nil, by rw [List.append_nil]; rfl⟩
  rw [List.map_map]
  apply List.map_congr_left
  intro o _
  cases o with
  | none => rfl
  | some sl =>
    simp only [Function.comp, Option.map_some]
    split <;> rfl

theorem flagsOnly_markCleanStep (s : Db) (x : Nat × Slot × Option (Nat × Nat)) : FlagsOnly s (s.markCleanStep x) := by
  rcases markCleanStep_eq s x with ⟨_, e⟩ | ⟨sl, hs, e⟩
  · rw [e]; exact FlagsOnly.refl s
  · rw [e]; exact flagsOnly_setSlot s x.1 sl _ hs rfl

theorem flagsOnly_markCleanFold (l : List (Nat × Slot × Option (Nat × Nat))) (s : Db) :
    FlagsOnly s (l.foldl markCleanStep s) := by
  induction l generalizing s with
  | nil => exact FlagsOnly.refl s
  | cons a t ih => exact (flagsOnly_markCleanStep s a).trans (ih _)

theorem flagsOnly_regionFlush (s : Db) (idx : Nat) : FlagsOnly s (s.regionFlush idx).1 := by
  rcases regionFlush_spec (pair_of_snd rfl : s.regionFlush idx = _) with ⟨_, e, _⟩ | ⟨sl, X, evs, hs, hX, _, _, hev, e, _⟩
  · rw [e]; exact FlagsOnly.refl s
  · rw [e]; exact ⟨_, evs, map_md_set hs hX, hev, rfl⟩

/-- the state `flush` reaches before it promotes the pending holes (written `Db.flushPre` also where `Db` is open) -/
protected def flushPre (s : Db) : Db :=
  let dirty := s.flushCandidates
  let s1 := s.takeAllDirty
  if dirty.isEmpty then
    (if s1.pending.isEmpty then s1 else (s1.emit (.flushAsyncAll .regions)).emit (.sync .regions))
  else
    let r := dirty.foldl (fun (acc : Nat × Nat) (x : Nat × Slot × Option (Nat × Nat)) =>
      match x.2.2 with
      | some (mn, mx) => (min acc.1 (x.2.1.md.start + mn), max acc.2 (x.2.1.md.start + mx))
      | none => acc) (USIZE_MAX, 0)
    let s2 := if r.1 < r.2 then s1.emit (.flushAsync .data r.1 (r.2 - r.1)) else s1
    dirty.foldl markCleanStep (((s2.emit (.flushAsyncAll .regions)).emit (.sync .data)).emit (.sync .regions))

protected theorem flush_eq (s : Db) :
    s.flush = ({ Db.flushPre s with holes := promote (Db.flushPre s).holes (Db.flushPre s).pending, pending := [] },
      .okN s.flushCandidates.length) := by
  unfold flush Db.flushPre
  simp only []
  split
  · rename_i h; rw [List.isEmpty_iff.mp h]; rfl
  · rfl

theorem flagsOnly_flushPre (s : Db) : FlagsOnly s (Db.flushPre s) := by
  unfold Db.flushPre
  simp only []
  have h0 := flagsOnly_takeAllDirty s
  split
  · split
    · exact h0
    · exact h0.trans ((flagsOnly_emit _ _ (by trivial)).trans (flagsOnly_emit _ _ (by trivial)))
  · refine FlagsOnly.trans ?_ (flagsOnly_markCleanFold _ _)
    refine FlagsOnly.trans ?_ ((flagsOnly_emit _ _ (by trivial)).trans
      ((flagsOnly_emit _ _ (by trivial)).trans (flagsOnly_emit _ _ (by trivial))))
    split
    · exact h0.trans (flagsOnly_emit _ _ (by trivial))
    · exact h0

/-- what `flush` does to one live slot -/
def flushed (sl : Slot) : Slot :=
  let sl1 : Slot := if sl.dmin < sl.dmax then { sl with dmin := USIZE_MAX, dmax := 0 } else sl
  if sl.dmin < sl.dmax ∨ sl.st = .needsFlush then { sl1 with st := .clean } else sl1

theorem flushed_of_not {sl : Slot} (h : ¬(sl.dmin < sl.dmax ∨ sl.st = .needsFlush)) : flushed sl = sl := by
  unfold flushed
  simp only []
  rw [if_neg h, if_neg (fun hb => h (Or.inl hb))]

theorem flushed_md (sl : Slot) : (flushed sl).md = sl.md := by
  unfold flushed
  split <;> split <;> rfl

theorem flushed_st {sl : Slot} (h : sl.st ≠ .needsWrite) : (flushed sl).st ≠ .needsWrite := by
  by_cases hc : sl.dmin < sl.dmax ∨ sl.st = .needsFlush
  · unfold flushed
    simp only []
    rw [if_pos hc]
    exact fun e => MState.noConfusion e
  · rw [flushed_of_not hc]; exact h

theorem mem_flushCandidates (s : Db) (j : Nat) :
    j ∈ s.flushCandidates.map (·.1) ↔ ∃ sl, s.slot? j = some sl ∧ (sl.dmin < sl.dmax ∨ sl.st = .needsFlush) := by
  unfold flushCandidates
  rw [List.mem_map]
  constructor
  · rintro ⟨x, hx, rfl⟩
    obtain ⟨i, _, he⟩ := List.mem_filterMap.mp hx
    cases hs : s.slot? i with
    | none => rw [hs] at he; cases he
    | some sl =>
      rw [hs] at he
      simp only at he
      by_cases hc : ((if sl.dmin < sl.dmax then some (sl.dmin, sl.dmax) else none).isSome || sl.st == MState.needsFlush) = true
      · rw [if_pos hc] at he
        cases he
        refine ⟨sl, hs, ?_⟩
        by_cases hb : sl.dmin < sl.dmax
        · exact Or.inl hb
        · right; simpa [hb] using hc
      · rw [if_neg hc] at he; cases he
  · rintro ⟨sl, hs, hc⟩
    refine ⟨(j, sl, if sl.dmin < sl.dmax then some (sl.dmin, sl.dmax) else none),
      List.mem_filterMap.mpr ⟨j, List.mem_range.mpr (slot?_lt hs), ?_⟩, rfl⟩
    rw [hs]
    simp only
    rw [if_pos]
    rcases hc with hb | hst
    · simp [hb]
    · simp [hst]

theorem markCleanFold_slot (l : List (Nat × Slot × Option (Nat × Nat))) (t : Db) (j : Nat) :
    (l.foldl markCleanStep t).slot? j =
      (t.slot? j).map (fun sl => if j ∈ l.map (·.1) then { sl with st := .clean } else sl) := by
  induction l generalizing t with
  | nil =>
    simp only [List.foldl_nil, List.map_nil, List.not_mem_nil, if_false]
    cases t.slot? j <;> rfl
  | cons x r ih =>
    simp only [List.foldl_cons]
    have hstep : (t.markCleanStep x).slot? j = (t.slot? j).map (fun sl => if j = x.1 then { sl with st := .clean } else sl) := by
      rcases markCleanStep_eq t x with ⟨hs, e⟩ | ⟨sl, hs, e⟩
      · rw [e]
        by_cases hj : j = x.1
        · rw [hj, hs]; rfl
        · cases t.slot? j <;> simp [hj]
      · rw [e]
        by_cases hj : j = x.1
        · rw [hj, slot?_set_self rfl (slot?_lt hs), hs]; simp
        · rw [slot?_set_ne rfl hj]; cases t.slot? j <;> simp [hj]
    rw [ih (t.markCleanStep x), hstep]
    cases t.slot? j with
    | none => rfl
    | some sl =>
      simp only [Option.map_some, List.map_cons, List.mem_cons]
      by_cases hj : j = x.1 <;> by_cases hm : j ∈ r.map (·.1) <;> simp [hj, hm]

theorem flushPre_slot (s : Db) (j : Nat) : (Db.flushPre s).slot? j = (s.slot? j).map flushed := by
  unfold Db.flushPre
  simp only []
  split
  · rename_i hemp
    -- nothing was selected: no live slot has dirty bounds or waits for its flush
    have hnc : ∀ sl, s.slot? j = some sl → ¬(sl.dmin < sl.dmax ∨ sl.st = .needsFlush) := by
      intro sl hs hc
      have hm := (mem_flushCandidates s j).mpr ⟨sl, hs, hc⟩
      rw [List.isEmpty_iff.mp hemp] at hm
      cases hm
    have hj : ∀ (u : Db), u.slots = s.takeAllDirty.slots → u.slot? j = (s.slot? j).map flushed := by
      intro u hu
      rw [slot?_congr hu j, takeAllDirty_slot]
      cases hs : s.slot? j with
      | none => rfl
      | some sl =>
        have hc := hnc sl hs
        rw [Option.map_some, Option.map_some, flushed_of_not hc, if_neg (fun hb => hc (Or.inl hb))]
    split
    · exact hj _ rfl
    · exact hj _ rfl
  · generalize (s.flushCandidates.foldl (fun (acc : Nat × Nat) (x : Nat × Slot × Option (Nat × Nat)) =>
      match x.2.2 with
      | some (mn, mx) => (min acc.1 (x.2.1.md.start + mn), max acc.2 (x.2.1.md.start + mx))
      | none => acc) (USIZE_MAX, 0)) = r
    generalize ht : (((if r.1 < r.2 then s.takeAllDirty.emit (.flushAsync .data r.1 (r.2 - r.1)) else s.takeAllDirty).emit
      (.flushAsyncAll .regions)).emit (.sync .data)).emit (.sync .regions) = t
    have ht1 : t.slots = s.takeAllDirty.slots := by
      rw [← ht]
      split
      · rfl
      · rfl
    rw [markCleanFold_slot, slot?_congr ht1 j, takeAllDirty_slot]
    cases hs : s.slot? j with
    | none => rfl
    | some sl =>
      simp only [Option.map_some, Option.some.injEq]
      have hm := mem_flushCandidates s j
      rw [hs] at hm
      unfold flushed
      by_cases hc : sl.dmin < sl.dmax ∨ sl.st = .needsFlush
      · rw [if_pos (hm.mpr ⟨sl, rfl, hc⟩)]
        simp only [hc, if_true]
      · rw [if_neg (fun hmem => hc (by obtain ⟨x, hx, hcx⟩ := hm.mp hmem; cases hx; exact hcx))]
        simp only [hc, if_false]

/-- `compact` never takes its error branch: `flush` always answers with a count -/
theorem compact_eq (s : Db) : s.compact = (s.flush.1.punchHoles, .ok) := by
  unfold compact
  rw [Db.flush_eq]

/-- a range `punch_holes` offers to `punchIfData`: the reserve of a live region beyond the pages its contents use, or a free extent -/
def PunchCand (s : Db) (r : Nat × Nat) : Prop :=
  (∃ i sl, s.slot? i = some sl ∧ ceilPage sl.md.len < sl.md.reserved ∧
    r = (sl.md.start + ceilPage sl.md.len, sl.md.reserved - ceilPage sl.md.len)) ∨ r ∈ s.holes

theorem punchHoles_ind {P : Db → Prop} (s : Db) (h0 : P s)
    (hpunch : ∀ (t : Db) (r : Nat × Nat), PunchCand s r → P t →
      P { t with mem := t.mem.punch r.1 r.2, log := t.log ++ [.punch r.1 r.2] })
    (hsync : ∀ t, P t → P (t.emit (.sync .data))) : P s.punchHoles := by
  have offer : ∀ (acc : Db × Nat) (r : Nat × Nat), PunchCand s r → (P acc.1 ∧ acc.1.slots = s.slots) →
      P (punchIfData acc r.1 r.2).1 ∧ (punchIfData acc r.1 r.2).1.slots = s.slots := by
    intro acc r hr h
    rcases punchIfData_eq acc r.1 r.2 with e | e
    · rw [e]; exact h
    · rw [e]; exact ⟨hpunch _ r hr h.1, h.2⟩
  have tails : ∀ (l : List Nat) (acc : Db × Nat), (P acc.1 ∧ acc.1.slots = s.slots) →
      (fun r : Db × Nat => P r.1 ∧ r.1.slots = s.slots) (l.foldl (fun (acc : Db × Nat) i => match acc.1.slot? i with
        | none => acc
        | some sl => if ceilPage sl.md.len < sl.md.reserved then
            punchIfData acc (sl.md.start + ceilPage sl.md.len) (sl.md.reserved - ceilPage sl.md.len) else acc) acc) := by
    intro l
    induction l with
    | nil => exact fun _ h => h
    | cons i t ih =>
      intro acc h
      refine ih _ ?_
      dsimp only
      rw [slot?_congr h.2 i]
      cases hs : s.slot? i with
      | none => exact h
      | some sl =>
        simp only []
        split
        · rename_i hc
          exact offer acc (sl.md.start + ceilPage sl.md.len, sl.md.reserved - ceilPage sl.md.len) (Or.inl ⟨i, sl, hs, hc, rfl⟩) h
        · exact h
  have frees : ∀ (l : List (Nat × Nat)), (∀ r ∈ l, r ∈ s.holes) → ∀ acc : Db × Nat, (P acc.1 ∧ acc.1.slots = s.slots) →
      P (l.foldl (fun acc h => punchIfData acc h.1 h.2) acc).1 := by
    intro l
    induction l with
    | nil => exact fun _ _ h => h.1
    | cons r t ih =>
      exact fun hl acc h => ih (fun x hx => hl x (List.mem_cons_of_mem _ hx)) (punchIfData acc r.1 r.2)
        (offer acc r (Or.inr (hl r (List.mem_cons_self ..))) h)
  have sorted : ∀ (hs acc : List (Nat × Nat)), (∀ r ∈ acc, r ∈ s.holes) → (∀ r ∈ hs, r ∈ s.holes) →
      ∀ r ∈ hs.foldl (fun l h => sortedInsert l h.1 h.2) acc, r ∈ s.holes := by
    intro hs
    induction hs with
    | nil => exact fun _ h _ => h
    | cons a t ih =>
      refine fun acc ha hh => ih _ (fun r hr => ?_) (fun r hr => hh r (List.mem_cons_of_mem _ hr))
      rcases mem_of_mem_sortedInsert acc a.1 a.2 r hr with e | e
      · exact e ▸ hh a (List.mem_cons_self ..)
      · exact ha r e
  have h := frees _ (sorted s.holes [] (fun _ h => nomatch h) (fun _ h => h)) _ (tails (List.range s.slots.length) (s, 0) ⟨h0, rfl⟩)
  unfold punchHoles
  simp only []
  split
  · exact hsync _ h
  · exact h

theorem punchHoles_rest (s : Db) :
    s.punchHoles.fileLen = s.fileLen ∧ s.punchHoles.slots = s.slots ∧ s.punchHoles.rfile = s.rfile ∧
    s.punchHoles.regions = s.regions ∧ s.punchHoles.holes = s.holes ∧ s.punchHoles.reserved = s.reserved ∧
    s.punchHoles.pending = s.pending ∧ s.punchHoles.mem.size = s.mem.size :=
  punchHoles_ind (P := fun t => t.fileLen = s.fileLen ∧ t.slots = s.slots ∧ t.rfile = s.rfile ∧ t.regions = s.regions ∧
      t.holes = s.holes ∧ t.reserved = s.reserved ∧ t.pending = s.pending ∧ t.mem.size = s.mem.size) s
    ⟨rfl, rfl, rfl, rfl, rfl, rfl, rfl, rfl⟩
    (fun _ _ _ ⟨h1, h2, h3, h4, h5, h6, h7, h8⟩ => ⟨h1, h2, h3, h4, h5, h6, h7, (Mem.size_punch _ _ _).trans h8⟩) (fun _ h => h)

/-- `write_with`: an error answer that is not internal was given before anything happened -/
theorem writeWith_err_unchanged (s : Db) (idx : Nat) (d : List UInt8) (a : Option Nat) (t : Bool) (k : ErrKind) (hk : ¬Internal k)
    (h : (s.writeWith idx d a t).2 = .err k) : (s.writeWith idx d a t).1 = s := by
  cases hs : s.slot? idx with
  | none => rw [writeWith_absent hs]
  | some sl =>
    rcases writeWith_out hs (pair_of_snd h) with ⟨_, e, _⟩ | ⟨_, e | ⟨_, e⟩ | ⟨_, e, hi⟩⟩
    · exact e
    · cases e
    · cases e
    · cases e; exact absurd hi hk

/-- `write_with`: a `WriteOutOfBounds` answer leaves the whole state (event log included) as it was -/
theorem writeWith_oob_unchanged (s : Db) (idx : Nat) (d : List UInt8) (a : Option Nat) (t : Bool)
    (h : (s.writeWith idx d a t).2 = .err .writeOutOfBounds) : (s.writeWith idx d a t).1 = s :=
  writeWith_err_unchanged s idx d a t _ (fun hi => by rcases hi with hi | hi | hi | hi | hi <;> cases hi) h

/-- and it is returned exactly when the requested offset lies beyond the current length -/
theorem writeWith_oob_iff (s : Db) (idx : Nat) (sl : Slot) (d : List UInt8) (a : Option Nat) (t : Bool)
    (hs : s.slot? idx = some sl) :
    (s.writeWith idx d a t).2 = .err .writeOutOfBounds ↔ ∃ at_, a = some at_ ∧ at_ > sl.md.len := by
  rw [← oob_true]
  rcases writeWith_out hs (pair_of_snd rfl : s.writeWith idx d a t = _) with ⟨hoob, _, e⟩ | ⟨hoob, e | ⟨_, e⟩ | ⟨_, e, hk⟩⟩
  · rw [e, hoob]; exact ⟨fun _ => rfl, fun _ => rfl⟩
  · rw [e, hoob]; exact ⟨nofun, nofun⟩
  · rw [e, hoob]; exact ⟨nofun, nofun⟩
  · rw [e, hoob]
    refine ⟨fun h => ?_, nofun⟩
    cases h
    rcases hk with hk | hk | hk | hk | hk <;> cases hk

theorem truncate_err_unchanged (s : Db) (idx n : Nat) (k : ErrKind)
    (h : (s.truncate idx n).2 = .err k) : (s.truncate idx n).1 = s := by
  rcases truncate_spec (pair_of_snd h) with ⟨_, e, _⟩ | ⟨_, _, ⟨_, e, _⟩ | ⟨_, e, _⟩ | ⟨_, _, e⟩⟩
  · exact e
  · exact e
  · exact e
  · cases e

theorem truncate_refused_iff (s : Db) (idx n : Nat) (sl : Slot) (hs : s.slot? idx = some sl) :
    (s.truncate idx n).2 = .err .truncateInvalid ↔ n > sl.md.len := by
  rcases spec_some hs (truncate_spec (pair_of_snd rfl : s.truncate idx n = _)) with ⟨he, _, e⟩ | ⟨hgt, _, e⟩ | ⟨hlt, _, e⟩
  · rw [e]; exact ⟨nofun, fun h => by omega⟩
  · rw [e]; exact ⟨fun _ => hgt, fun _ => rfl⟩
  · rw [e]; exact ⟨nofun, fun h => by omega⟩

theorem rename_err_unchanged (s : Db) (idx : Nat) (nid : RegionId) (k : ErrKind)
    (h : (s.rename idx nid).2 = .err k) : (s.rename idx nid).1 = s := by
  rcases rename_spec (pair_of_snd h) with ⟨_, e, _⟩ | ⟨_, _, ⟨_, _, e, _⟩ | ⟨_, _, e, _⟩ | ⟨_, _, _, e⟩⟩
  · exact e
  · exact e
  · exact e
  · cases e

theorem rename_refused_iff (s : Db) (idx : Nat) (nid : RegionId) (sl : Slot) (hs : s.slot? idx = some sl) :
    (s.rename idx nid).2 = .err .regionAlreadyExists ↔ (s.findId nid).isSome := by
  rcases spec_some hs (rename_spec (pair_of_snd rfl : s.rename idx nid = _)) with ⟨_, hf, _, e⟩ | ⟨hf, _, _, e⟩ | ⟨hf, _, _, e⟩
  · rw [e, hf]; exact ⟨fun _ => rfl, fun _ => rfl⟩
  · rw [e, hf]; exact ⟨nofun, nofun⟩
  · rw [e, hf]; exact ⟨nofun, nofun⟩

theorem removeId_absent_unchanged (s : Db) (id : RegionId) (x : Bool) (h : s.findId id = none) :
    s.removeId id x = (s, .err .regionNotFound) :=
  removeId_cases (P := (· = (s, .err .regionNotFound))) s id x (fun _ => rfl) (fun _ h' => nomatch h.symm.trans h')

end Db

end AnyDB
