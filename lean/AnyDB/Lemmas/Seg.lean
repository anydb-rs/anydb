import AnyDB.Lemmas.LayoutLists

/-!
The list operations of the layout against a predicate on extents, and against counting.

* `Seg P`: a predicate on extents that survives what the allocator does to them — cutting the front off, joining two
  adjacent ones.  `0 < size` (`seg_pos`), page alignment (`seg_al`, `Lemmas/LayoutAlign.lean`) and "ends inside the file"
  (`seg_in`, `Lemmas/LayoutInFile.lean`) are the instances; every list operation of the layout (`alErase`, `sortedInsert`,
  `removeOrCompress`, `promote`, replacing a slot) keeps `∀ e ∈ l, P e`.
* `cnt_set`: what replacing one entry of a slot table does to the number of extents covering a byte (replace, remove
  and fill are its three uses).
-/
namespace AnyDB.C02r
open Conc

/-- the extent of an optional entry, as a list -/
def oE : Option E → List E
  | some e => [e]
  | none => []

theorem cnt_set (l : List (Option E)) (idx : Nat) (o n : Option E) (x : Nat) (h : l[idx]? = some o) :
    cnt ((l.set idx n).filterMap id) x + cnt (oE o) x = cnt (l.filterMap id) x + cnt (oE n) x := by
  induction l generalizing idx with
  | nil => cases h
  | cons a t ih =>
    cases idx with
    | zero =>
      cases Option.some.inj h
      cases o <;> cases n <;> simp only [List.set_cons_zero, List.filterMap_cons, id, oE, cnt_cons, cnt_nil] <;> omega
    | succ k =>
      have := ih k h
      cases a <;> simp only [List.set_cons_succ, List.filterMap_cons, id, cnt_cons] <;> omega

/-- two entries of a slot table, at different indices, are both counted -/
theorem two_entries (l : List (Option E)) (i j : Nat) (a b : E) (x : Nat) (hij : i ≠ j) (hi : l[i]? = some (some a))
    (hj : l[j]? = some (some b)) : ind a x + ind b x ≤ cnt (l.filterMap id) x := by
  have h1 := cnt_set l i _ none x hi
  have h2 := cnt_set (l.set i none) j _ none x (by rw [List.getElem?_set_ne hij]; exact hj)
  simp only [oE, cnt_cons, cnt_nil] at h1 h2
  omega

structure Seg (P : E → Prop) : Prop where
  cut : ∀ a sz b, b < sz → P (a, sz) → P (a, b) → P (a + b, sz - b)
  join : ∀ a m k, P (a, m) → P (a + m, k) → P (a, m + k)

theorem seg_pos : Seg (fun e => 0 < e.2) :=
  ⟨fun _ _ _ h _ _ => Nat.sub_pos_of_lt h, fun _ _ _ h _ => Nat.add_pos_left h _⟩

variable {P : E → Prop}

theorem all_alErase (l : List E) (k : Nat) (h : ∀ e ∈ l, P e) : ∀ e ∈ alErase l k, P e :=
  fun e he => h e (List.mem_filter.mp he).1

theorem all_sortedInsert (l : List E) (k v : Nat) (h : ∀ e ∈ l, P e) (hk : P (k, v)) : ∀ e ∈ sortedInsert l k v, P e := by
  intro e he
  rcases mem_of_mem_sortedInsert l k v e he with h1 | h1
  · rw [h1]; exact hk
  · exact h e h1

theorem all_snoc (l : List E) (e : E) (h : ∀ e ∈ l, P e) (he : P e) : ∀ x ∈ l ++ [e], P x := by
  intro x hx
  rcases List.mem_append.mp hx with h1 | h1
  · exact h x h1
  · rw [List.mem_singleton.mp h1]; exact he

theorem all_removeOrCompress (sg : Seg P) (holes hs : List E) (start b : Nat) (h : ∀ e ∈ holes, P e) (hb : P (start, b))
    (hrc : removeOrCompress holes start b = .ok hs) : ∀ e ∈ hs, P e := by
  rcases removeOrCompress_spec hrc with ⟨_, e⟩ | ⟨size, hg, ⟨_, e⟩ | ⟨hlt, e⟩ | ⟨_, e⟩⟩
  · cases e; exact h
  · cases e; exact all_alErase _ _ h
  · cases e
    exact all_snoc _ _ (all_alErase _ _ h) (sg.cut _ _ _ hlt (h _ (mem_of_alGet holes start size hg)) hb)
  · cases e

theorem all_promoteOne (sg : Seg P) (hs : List E) (p : E) (h : ∀ e ∈ hs, P e) (hp : P p) : ∀ e ∈ promoteOne hs p, P e := by
  rw [promoteOne_eq]
  have hl : (∀ e ∈ (joinLeft hs p).1, P e) ∧ P ((joinLeft hs p).2.1, (joinLeft hs p).2.2) := by
    rcases joinLeft_eq hs p with e | ⟨x, hph, hadj, e⟩
    · rw [e]; exact ⟨h, hp⟩
    · rw [e]
      refine ⟨all_alErase _ _ h, ?_⟩
      show P (x.1, p.2 + x.2)
      rw [Nat.add_comm]
      exact sg.join _ _ _ (h x (mem_of_prevHole hs p.1 x hph)) (by rw [hadj]; exact hp)
  generalize joinLeft hs p = r1 at hl
  obtain ⟨hl1, hl2⟩ := hl
  rcases joinRight_eq r1 with ⟨_, e⟩ | ⟨a, hg, e⟩
  · rw [e]; exact all_snoc _ _ hl1 hl2
  · rw [e]; exact all_snoc _ _ (all_alErase _ _ hl1) (sg.join _ _ _ hl2 (hl1 _ (mem_of_alGet r1.1 _ a hg)))

theorem all_promote (sg : Seg P) (hs pending : List E) (h : ∀ e ∈ hs, P e) (hp : ∀ e ∈ pending, P e) :
    ∀ e ∈ promote hs pending, P e := by
  unfold promote
  induction pending generalizing hs with
  | nil => exact h
  | cons p t ih =>
    exact ih _ (all_promoteOne sg hs p h (hp p (List.mem_cons_self ..))) (fun e he => hp e (List.mem_cons_of_mem _ he))

theorem all_set (l : List (Option E)) (idx : Nat) (n : Option E) (h : ∀ e ∈ l.filterMap id, P e) (hn : ∀ e, n = some e → P e) :
    ∀ e ∈ (l.set idx n).filterMap id, P e := by
  intro e he
  simp only [List.mem_filterMap, id] at he h
  obtain ⟨o, ho, rfl⟩ := he
  rcases List.mem_or_eq_of_mem_set ho with h1 | h1
  · exact h e ⟨_, h1, rfl⟩
  · exact hn e h1.symm

end AnyDB.C02r
