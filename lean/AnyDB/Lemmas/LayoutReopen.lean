import AnyDB.Lemmas.RegionFile
import AnyDB.Lemmas.LayoutFrom
import AnyDB.Lemmas.ReopenRel
/-!
`Database::open` on the metadata file of a state that satisfies the invariants (`LInv`, `FInv`, alignment, bounds; every live
region written at least once).  The slot table read back (`slotsRead`) has the extents of the live slots (`slotsRead_get`,
`exts_slotsRead`), so `Layout::from` on it (`relaid_li`, `Lemmas/LayoutFrom.lean`) does not panic and the holes it creates are
exactly the gaps: together with the regions they cover every byte below the last region's end exactly once (`reopen_layout`).
`reopen_spec` then says what `Db.reopen` answers from such a state — `.ok` and an explicit record over the grown data file
(`reopened`) — and everything else about a reopen is read off that record.
-/
namespace AnyDB.C02r
open Conc Db

theorem exts_nil_of_none (l : List (Option Slot)) (h : ∀ i : Nat, (l[i]?).join = none) : exts l = [] := by
  induction l with
  | nil => rfl
  | cons a t ih =>
    cases a with
    | some x => cases h 0
    | none => rw [exts_cons_none]; exact ih (fun i => h (i + 1))

theorem exts_congr (l1 l2 : List (Option Slot)) (h : ∀ i : Nat, ((l1[i]?).join).map extOf = ((l2[i]?).join).map extOf) : exts l1 = exts l2 := by
  induction l1 generalizing l2 with
  | nil => exact (exts_nil_of_none l2 fun i => Option.map_eq_none_iff.mp (h i).symm).symm
  | cons a t ih =>
    cases l2 with
    | nil => exact exts_nil_of_none (a :: t) fun i => Option.map_eq_none_iff.mp (h i)
    | cons b t2 =>
      have h0 : a.map extOf = b.map extOf := h 0
      have ht := ih t2 (fun i => h (i + 1))
      unfold exts at ht ⊢
      rw [List.filterMap_cons, List.filterMap_cons, h0, ht]

def cleanOf (sl : Slot) : Slot := { md := sl.md, st := .clean, dmin := USIZE_MAX, dmax := 0 }

/-- the slot table `Regions::open` builds from the metadata file -/
def slotsRead (rfile : List (Option Meta)) : List (Option Slot) :=
  rfile.map (fun o => match o with
    | some m => if metaValid m then some ({ md := m, st := .clean, dmin := USIZE_MAX, dmax := 0 } : Slot) else none
    | none => none)

open C01r in
theorem slotsRead_get (s : Db) (hf : FInv s) (hr : RInv s) (ha : Al s)
    (hw : ∀ idx sl, s.slot? idx = some sl → sl.st ≠ .needsWrite) (idx : Nat) :
    ((slotsRead s.rfile)[idx]?).join = (s.slot? idx).map cleanOf := by
  have hok := (finv_iff s).mp hf idx
  unfold slotsRead
  rw [List.getElem?_map]
  cases hsl : s.slot? idx with
  | none =>
    rw [hsl] at hok
    cases hr' : s.rfile[idx]? with
    | none => rfl
    | some o =>
      cases o with
      | none => rfl
      | some m => rw [hr'] at hok; cases hok
  | some sl =>
    rw [hsl] at hok
    obtain ⟨-, b, -, d⟩ := hok
    have hal := alE_slot s ha idx sl hsl
    -- the slot's metadata pass the checks of `Regions::open`: a positive page-aligned reservation is at least a page
    have hvalid : metaValid sl.md = true := by
      unfold metaValid
      simp only [Bool.and_eq_true, decide_eq_true_eq, beq_iff_eq]
      exact ⟨⟨⟨⟨b, hal.1⟩, Nat.le_of_dvd (slot_pos s hr.lay idx sl hsl) (Nat.dvd_of_mod_eq_zero hal.2)⟩, hal.2⟩, (hr.bnd idx sl hsl).1⟩
    rw [d (hw idx sl hsl)]
    show (if metaValid sl.md = true then _ else _) = _
    rw [if_pos hvalid]; rfl

open C01r in
theorem exts_slotsRead (s : Db) (hf : FInv s) (hr : RInv s) (ha : Al s)
    (hw : ∀ idx sl, s.slot? idx = some sl → sl.st ≠ .needsWrite) : exts (slotsRead s.rfile) = exts s.slots := by
  apply exts_congr
  intro i
  rw [slotsRead_get s hf hr ha hw i]
  unfold Db.slot?
  cases (s.slots[i]?).join <;> rfl

open C01r in
/-- `Layout::from` cannot fail on what a state of the invariants leaves in its metadata file, and the layout it builds satisfies
the layout invariant again: the regions read back are the live ones, the holes are exactly the gaps between them -/
theorem reopen_layout (s : Db) (hf : FInv s) (hr : RInv s) (ha : Al s)
    (hw : ∀ idx sl, s.slot? idx = some sl → sl.st ≠ .needsWrite) :
    ∃ H, layoutFromSorted (triplesUpTo (slotsRead s.rfile) (slotsRead s.rfile).length) 0 [] = some H ∧
      LI (relaid (slotsRead s.rfile) H) ∧
      (∀ x y, x ≤ y → 0 < cnt (relaid (slotsRead s.rfile) H).cl y → 0 < cnt (relaid (slotsRead s.rfile) H).cl x) ∧
      (∀ e ∈ H, (e.1 = 0 ∨ ∃ j sl, s.slot? j = some sl ∧ e.1 = sl.md.start + sl.md.reserved) ∧
        ∃ j sl, s.slot? j = some sl ∧ e.1 + e.2 = sl.md.start) := by
  have hexts := exts_slotsRead s hf hr ha hw
  obtain ⟨H, e1, e2, e3, e4⟩ := relaid_li (slotsRead s.rfile) (hexts ▸ (slots_pos_one s hr.lay).1) (hexts ▸ (slots_pos_one s hr.lay).2)
  -- a slot read back is a live slot of `s`, with its metadata
  have back : ∀ j sl', ((slotsRead s.rfile)[j]?).join = some sl' → ∃ sl, s.slot? j = some sl ∧ sl'.md = sl.md := by
    intro j sl' h
    obtain ⟨sl, hs, rfl⟩ := Option.map_eq_some_iff.mp ((slotsRead_get s hf hr ha hw j).symm.trans h)
    exact ⟨sl, hs, rfl⟩
  refine ⟨H, e1, e2, e3, fun e he => ?_⟩
  obtain ⟨a, j2, sl2, s2, b⟩ := e4 e he
  obtain ⟨t2, u2, v2⟩ := back j2 sl2 s2
  refine ⟨?_, j2, t2, u2, by rw [b, v2]⟩
  rcases a with a | ⟨j1, sl1, s1, a⟩
  · exact Or.inl a
  · obtain ⟨t1, u1, v1⟩ := back j1 sl1 s1
    exact Or.inr ⟨j1, t1, u1, by rw [a, v1]⟩

theorem reopen_eq (s : Db) (n : Nat) :
    s.reopen n =
      (let s0 : Db := if s.fileLen < n then { s with fileLen := n, mem := s.mem.grow n, log := s.log ++ [.setLen .data n, .sync .data] } else s
       match layoutFromSorted (triplesUpTo (slotsRead s0.rfile) (slotsRead s0.rfile).length) 0 [] with
       | none => (s0, .panic "Layout::from")
       | some holes =>
         ({ s0 with slots := slotsRead s0.rfile,
                    regions := (triplesUpTo (slotsRead s0.rfile) (slotsRead s0.rfile).length).map (fun t => (t.1, t.2.1)),
                    holes := holes, reserved := [], pending := [] }, .ok)) := rfl

end AnyDB.C02r

namespace AnyDB.C01r
open C02r Mem

/-- the data file as `open` leaves it: grown to `n` if it was shorter -/
def grown (s : Db) (n : Nat) : Db :=
  if s.fileLen < n then { s with fileLen := n, mem := s.mem.grow n, log := s.log ++ [.setLen .data n, .sync .data] } else s

theorem grown_rfile (s : Db) (n : Nat) : (grown s n).rfile = s.rfile := by unfold grown; split <;> rfl

theorem grown_size (s : Db) (n : Nat) : s.mem.size ≤ (grown s n).mem.size := by
  unfold grown; split
  · simp only [size_grow]; omega
  · exact Nat.le_refl _

theorem grown_get? (s : Db) (n x : Nat) (hx : x < s.mem.size) : (grown s n).mem.get? x = s.mem.get? x := by
  unfold grown; split
  · simp only [get?_grow, if_pos hx]
  · rfl

theorem grown_fileLen (s : Db) (n : Nat) (h : s.fileLen = s.mem.size) : (grown s n).fileLen = (grown s n).mem.size := by
  unfold grown; split
  · simp only [size_grow]; omega
  · exact h

/-- the state `open` builds: the (grown) data file, the metadata file as it was, the slot table read from it, the rebuilt
layout `R`, `H`, nothing reserved or pending -/
def reopened (s : Db) (n : Nat) (R H : List (Nat × Nat)) : Db :=
  { fileLen := (grown s n).fileLen, mem := (grown s n).mem, log := (grown s n).log,
    rfile := s.rfile, slots := slotsRead s.rfile, regions := R, holes := H, reserved := [], pending := [] }

/-- what `Database::open` does from a state of the invariants in which every live region has been written at least once:
it answers `.ok`; the state is `reopened s n R H` for some rebuilt layout `R`, `H`; that layout satisfies the layout invariant and
is fully accounted; every hole starts at the origin or at the end of a region of `s` and ends where a region of `s` starts -/
theorem reopen_spec (s : Db) (n : Nat) (hf : FInv s) (hr : RInv s) (ha : Al s)
    (hw : ∀ idx sl, s.slot? idx = some sl → sl.st ≠ .needsWrite) :
    ∃ R H, s.reopen n = (reopened s n R H, .ok) ∧ LInv (reopened s n R H) ∧ Acc (reopened s n R H) ∧
      (∀ e ∈ H, (e.1 = 0 ∨ ∃ j sl, s.slot? j = some sl ∧ e.1 = sl.md.start + sl.md.reserved) ∧
        ∃ j sl, s.slot? j = some sl ∧ e.1 + e.2 = sl.md.start) := by
  obtain ⟨H, e1, e2, e3, e4⟩ := reopen_layout s hf hr ha hw
  refine ⟨_, H, ?_, (linv_iff _).mpr e2, fun x y hxy hy => ?_, e4⟩
  · rw [reopen_eq, ← grown]
    simp only [grown_rfile, e1, reopened]
  · rw [← cl_lay] at hy ⊢; exact e3 x y hxy hy

end AnyDB.C01r

namespace AnyDB.C02r

open C01r in
/-- C02 across a reopen: from every state of the invariants in which every live region has been written at least once,
`Database::open` does not panic in `Layout::from`, and the layout it rebuilds has no byte in two extents, positive extents,
a start map that agrees with the slots, and no unaccounted byte below its end -/
theorem reopen_ok (s : Db) (n : Nat) (hf : FInv s) (hr : RInv s) (ha : Al s)
    (hw : ∀ idx sl, s.slot? idx = some sl → sl.st ≠ .needsWrite) :
    (s.reopen n).2 = .ok ∧ LInv (s.reopen n).1 ∧ Acc (s.reopen n).1 := by
  obtain ⟨R, H, hspec, hl, hacc, -⟩ := reopen_spec s n hf hr ha hw
  rw [hspec]; exact ⟨rfl, hl, hacc⟩

end AnyDB.C02r

namespace AnyDB.C01r
open Conc C02r Mem

/-- what `Database::open` reads back from a metadata file that agrees with the slots: every region that has been written at
least once (holds data or was renamed) shows exactly what it showed — same name, same length, same bytes — and a freed slot
shows nothing -/
theorem reopen_view (s : Db) (n : Nat) (hf : FInv s) (hr : RInv s) (ha : Al s)
    (hw : ∀ idx sl, s.slot? idx = some sl → sl.st ≠ .needsWrite) (_hok : (s.reopen n).2 = .ok) :
    ∀ idx, viewAt (s.reopen n).1 idx = viewAt s idx := by
  intro idx
  obtain ⟨R, H, hspec, -⟩ := reopen_spec s n hf hr ha hw
  rw [hspec]
  unfold viewAt
  rw [show (reopened s n R H, Out.ok).1.slot? idx = _ from slotsRead_get s hf hr ha hw idx]
  cases hsl : s.slot? idx with
  | none => rfl
  | some sl =>
    exact congrArg (fun x => some (sl.md.id, x)) (read_congr s.mem (grown s n).mem sl.md.start sl.md.len
      (fun i hi => grown_get? s n _ (hr.bnd.lt_size hsl hi)))

theorem alE_gap (e a b : E) (ha : AlE a) (hb : AlE b) (h1 : e.1 = 0 ∨ e.1 = a.1 + a.2) (h2 : e.1 + e.2 = b.1) : AlE e := by
  have hs : Gen.PAGE_SIZE ∣ e.1 := by
    rcases h1 with h | h <;> rw [h]
    · exact Nat.dvd_zero _
    · exact Nat.dvd_add (Nat.dvd_of_mod_eq_zero ha.1) (Nat.dvd_of_mod_eq_zero ha.2)
  have he : Gen.PAGE_SIZE ∣ e.1 + e.2 := by rw [h2]; exact Nat.dvd_of_mod_eq_zero hb.1
  exact ⟨Nat.mod_eq_zero_of_dvd hs, Nat.mod_eq_zero_of_dvd ((Nat.dvd_add_right hs).mp he)⟩

theorem reopen_inv (s : Db) (n : Nat) (hf : FInv s) (hr : RInv s) (ha : Al s) (hi : InF s)
    (hw : ∀ idx sl, s.slot? idx = some sl → sl.st ≠ .needsWrite) :
    (s.reopen n).2 = .ok ∧ RInv (s.reopen n).1 ∧ Acc (s.reopen n).1 ∧ Al (s.reopen n).1 ∧ InF (s.reopen n).1 ∧ FInv (s.reopen n).1 := by
  obtain ⟨R, H, hspec, hl, hacc, hholes⟩ := reopen_spec s n hf hr ha hw
  rw [hspec]
  have hslot : ∀ idx, (reopened s n R H).slot? idx = (s.slot? idx).map cleanOf := slotsRead_get s hf hr ha hw
  have hsome : ∀ idx sl', (reopened s n R H).slot? idx = some sl' → ∃ sl, s.slot? idx = some sl ∧ cleanOf sl = sl' :=
    fun idx sl' h => Option.map_eq_some_iff.mp ((hslot idx).symm.trans h)
  have hexts : exts (reopened s n R H).slots = exts s.slots := exts_slotsRead s hf hr ha hw
  refine ⟨rfl, ⟨hl, fun idx sl' h => ?_⟩, hacc, (al_parts _).mpr ⟨?_, nofun, fun e he => ?_, nofun⟩,
    ⟨grown_fileLen s n hi.1, (inf_parts _ _).mpr ⟨?_, nofun, fun e he => ?_, nofun⟩⟩, fun idx hd => ?_, fun idx sl' h => ?_⟩
  · obtain ⟨sl, s1, rfl⟩ := hsome idx sl' h
    exact ⟨(hr.bnd idx sl s1).1, fun hp => Nat.le_trans ((hr.bnd idx sl s1).2 hp) (grown_size s n)⟩
  · rw [hexts]; exact ((al_parts s).mp ha).1
  · -- a hole is aligned: it runs from the end of a region (or the origin) to the start of a region
    obtain ⟨a, j2, sl2, s2, b⟩ := hholes e he
    rcases a with a | ⟨j1, sl1, s1, a⟩
    · exact alE_gap e (0, 0) _ ⟨rfl, rfl⟩ (alE_slot s ha j2 sl2 s2) (Or.inl a) b
    · exact alE_gap e _ _ (alE_slot s ha j1 sl1 s1) (alE_slot s ha j2 sl2 s2) (Or.inr a) b
  · rw [hexts]; exact inL_mono _ _ _ ((inf_parts s _).mp hi.2).1 (grown_size s n)
  · -- a hole lies inside the file: it ends where a region starts
    obtain ⟨-, j2, sl2, s2, b⟩ := hholes e he
    have := inE_slot s hi j2 sl2 s2
    have := grown_size s n
    show e.1 + e.2 ≤ (grown s n).mem.size
    omega
  · exact hf.dead idx (Option.map_eq_none_iff.mp ((hslot idx).symm.trans hd))
  · obtain ⟨sl, s1, rfl⟩ := hsome idx sl' h
    obtain ⟨a, b, -, d⟩ := hf.live idx sl s1
    exact ⟨a, b, nofun, fun _ => d (hw idx sl s1)⟩

/-- what the reopened database shows is what it showed, up to trailing free slots -/
theorem rel_reopen (s : Db) (ρ : Ref) (n : Nat) (hrel : Rel s ρ) (hf : FInv s) (hr : RInv s) (ha : Al s)
    (hw : ∀ idx sl, s.slot? idx = some sl → sl.st ≠ .needsWrite) (hok : (s.reopen n).2 = .ok) :
    ∃ ρ', Rel (s.reopen n).1 ρ' ∧ EqUpTo ρ ρ' :=
  rel_of_view s _ ρ hrel (reopen_view s n hf hr ha hw hok)

end AnyDB.C01r
