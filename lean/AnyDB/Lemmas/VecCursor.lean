import AnyDB.Lemmas.VecOps

/-!
The change-record cursor (`ChangeCursor`: `Cur.check`, `readU64`, `readValues`, `skip` with their checked arithmetic) read
against what the serialiser wrote: `CurAt c rest` says that cursor `c` stands inside its buffer with `rest` left to read, and
each read of a field that heads `rest` succeeds and leaves a cursor with the remainder (`readU64_at`, `readValues_at`,
`skip_at`), so the position never has to be computed.  Used for the record of both formats (Props/C04Record.lean,
Props/C04Comp.lean); `recTrunc` is the one field both compute the same way.
-/
namespace AnyDB.C04b
open VecM VecM.V

theorem u64b_length (n : Nat) : (u64b n).length = 8 := by unfold u64b; exact leBytes_length 8 n

theorem encVals_length (sz : Nat) (vs : List Nat) : (encVals sz vs).length = sz * vs.length := by
  unfold encVals
  induction vs with
  | nil => simp
  | cons v t ih =>
    simp only [List.flatMap_cons, List.length_append, List.length_cons, ih]
    rw [leBytes_length, Nat.mul_succ]
    omega

theorem chunkVals_encVals (sz : Nat) (vs : List Nat) (hv : ∀ v ∈ vs, v < 256 ^ sz) : chunkVals vs.length sz (encVals sz vs) = vs := by
  induction vs with
  | nil => rfl
  | cons v t ih =>
    have e : encVals sz (v :: t) = leBytes sz v ++ encVals sz t := List.flatMap_cons ..
    rw [e, List.length_cons, chunkVals, List.take_left' (leBytes_length sz v), List.drop_left' (leBytes_length sz v),
      le_rt sz v (hv v (List.mem_cons_self ..)), ih (fun x hx => hv x (List.mem_cons_of_mem _ hx))]

/-- cursor `c` stands inside its buffer (which is short enough for the checked arithmetic) with `rest` left to read -/
structure CurAt (c : Cur) (rest : List UInt8) : Prop where
  le : c.pos ≤ c.bytes.length
  lt : c.bytes.length < U64
  drop : c.bytes.drop c.pos = rest

theorem CurAt.advance {c : Cur} {pre rest : List UInt8} (h : CurAt c (pre ++ rest)) :
    c.check pre.length = .ok () ∧ (c.bytes.drop c.pos).take pre.length = pre ∧
    CurAt { c with pos := c.pos + pre.length } rest := by
  have hl := congrArg List.length h.drop
  rw [List.length_drop, List.length_append] at hl
  have hle := h.le
  have hlt := h.lt
  have hs : c.pos + pre.length ≤ c.bytes.length := by omega
  refine ⟨?_, by rw [h.drop, List.take_left], hs, h.lt, ?_⟩
  · unfold Cur.check
    rw [if_neg (by omega), if_neg (by omega)]
  · show c.bytes.drop (c.pos + pre.length) = rest
    rw [← List.drop_drop, h.drop, List.drop_left]

theorem CurAt.vals_lt {c : Cur} {sz : Nat} {vs : List Nat} {rest : List UInt8} (h : CurAt c (encVals sz vs ++ rest)) :
    ¬ sz * vs.length ≥ U64 := by
  have hs : c.pos + (encVals sz vs).length ≤ c.bytes.length := h.advance.2.2.le
  rw [encVals_length] at hs
  have := h.lt
  omega

theorem readU64_at (c : Cur) (n : Nat) (rest : List UInt8) (h : CurAt c (u64b n ++ rest)) (hn : n < 2 ^ 64) :
    ∃ c', c.readU64 = .ok (n, c') ∧ CurAt c' rest := by
  obtain ⟨k, t, a⟩ := h.advance
  rw [u64b_length] at k t a
  unfold Cur.readU64
  rw [k, t]
  have h256 : (256 : Nat) ^ 8 = 2 ^ 64 := by decide
  have e : leVal (u64b n) = n := le_rt 8 n (h256 ▸ hn)
  rw [e]
  exact ⟨_, rfl, a⟩

theorem readValues_at (c : Cur) (sz : Nat) (vs : List Nat) (rest : List UInt8) (h : CurAt c (encVals sz vs ++ rest))
    (hv : ∀ v ∈ vs, v < 256 ^ sz) :
    ∃ c', c.readValues vs.length sz = .ok (vs, c') ∧ CurAt c' rest := by
  obtain ⟨k, t, a⟩ := h.advance
  rw [encVals_length] at k t a
  unfold Cur.readValues
  rw [if_neg h.vals_lt, k, t]
  rw [chunkVals_encVals sz vs hv]
  exact ⟨_, rfl, a⟩

theorem skip_at (c : Cur) (pre rest : List UInt8) (h : CurAt c (pre ++ rest)) :
    ∃ c', c.skip pre.length = .ok c' ∧ CurAt c' rest := by
  obtain ⟨k, _, a⟩ := h.advance
  unfold Cur.skip
  rw [k]
  exact ⟨_, rfl, a⟩

def recTrunc (s : V) : Nat := s.prevStoredLen - s.storedLen

end AnyDB.C04b
