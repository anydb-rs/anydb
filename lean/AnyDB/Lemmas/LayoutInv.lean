import AnyDB.Lemmas.AllocCnt
import AnyDB.Lemmas.RawdbPrims

/-!
The layout invariant of a rawdb state (`LInv`): no byte of the file belongs to two extents (region reservations,
relocation targets, holes, pending holes), all extents have positive size, and `Layout::start_to_region` agrees with
the region slots.  `layoutLen_spec`: `Layout::len()` (`Db.layoutLen`, unfolded there) is the end of everything claimed — list by
list the end of the entry that starts last (`lastOf_end`, `lastRegion_end`); `layoutLen_ge`, `free_from_len` are its first half.
`linv_congr`: the invariant looks at a state only through its layout view.
-/
namespace AnyDB.C02r
open Conc Db

def extOf (sl : Slot) : E := (sl.md.start, sl.md.reserved)
def exts (slots : List (Option Slot)) : List E := slots.filterMap (fun o => o.map extOf)
def claimedDb (s : Db) : List E := exts s.slots ++ s.reserved ++ s.holes ++ s.pending

theorem exts_cons_some (sl : Slot) (t : List (Option Slot)) : exts (some sl :: t) = extOf sl :: exts t := rfl
theorem exts_cons_none (t : List (Option Slot)) : exts (none :: t) = exts t := rfl

theorem exts_append (a b : List (Option Slot)) : exts (a ++ b) = exts a ++ exts b := by
  unfold exts; simp

theorem mem_exts (slots : List (Option Slot)) (e : E) :
    e ∈ exts slots ↔ ∃ (idx : Nat) (sl : Slot), slots[idx]? = some (some sl) ∧ extOf sl = e := by
  unfold exts
  constructor
  · intro h
    obtain ⟨o, ho, he⟩ := List.mem_filterMap.mp h
    cases o with
    | none => simp at he
    | some sl =>
      obtain ⟨i, hi, hget⟩ := List.mem_iff_getElem.mp ho
      exact ⟨i, sl, by rw [List.getElem?_eq_getElem hi, hget], by simpa using he⟩
  · rintro ⟨idx, sl, h1, h2⟩
    refine List.mem_filterMap.mpr ⟨some sl, ?_, by simpa using h2⟩
    exact List.mem_of_getElem? h1

/-- the slots as far as the layout is concerned: `(start, reserved)` per live slot -/
def vs (s : Db) : List (Option E) := s.slots.map (fun o => o.map extOf)

theorem exts_map (L : List (Option Slot)) : exts L = (L.map (fun o => o.map extOf)).filterMap id := by
  unfold exts; rw [List.filterMap_map]; rfl

theorem exts_vs (s : Db) : exts s.slots = (vs s).filterMap id := exts_map s.slots

theorem map_extOf_get (L : List (Option Slot)) (idx : Nat) (e : E) :
    (L.map (fun o => o.map extOf))[idx]? = some (some e) ↔ ∃ sl, (L[idx]?).join = some sl ∧ extOf sl = e := by
  rw [List.getElem?_map]
  cases hs : L[idx]? with
  | none => simp
  | some o => cases o <;> simp

theorem vs_get (s : Db) (idx : Nat) (e : E) :
    (vs s)[idx]? = some (some e) ↔ ∃ sl, s.slot? idx = some sl ∧ extOf sl = e :=
  map_extOf_get s.slots idx e

theorem slot_vs {s : Db} {idx : Nat} {sl : Slot} (hs : s.slot? idx = some sl) : (vs s)[idx]? = some (some (extOf sl)) :=
  (vs_get s idx _).mpr ⟨sl, hs, rfl⟩

theorem extOf_mem_exts {s : Db} {idx : Nat} {sl : Slot} (hs : s.slot? idx = some sl) : extOf sl ∈ exts s.slots :=
  (mem_exts s.slots _).mpr ⟨idx, sl, (slot_iff s idx sl).mp hs, rfl⟩

/-- `reg1`: every live slot is in the start map, under its start; `reg2`: every entry of the start map is a live slot with
that start -/
structure LInv (s : Db) : Prop where
  one : One (claimedDb s)
  pos : Pos (claimedDb s)
  reg1 : ∀ (idx st r : Nat), (vs s)[idx]? = some (some (st, r)) → (st, idx) ∈ s.regions
  reg2 : ∀ (st idx : Nat), (st, idx) ∈ s.regions → ∃ r, (vs s)[idx]? = some (some (st, r))

theorem claimed_congr {s s' : Db} (h1 : vs s' = vs s) (h3 : s'.reserved = s.reserved) (h4 : s'.holes = s.holes)
    (h5 : s'.pending = s.pending) : claimedDb s' = claimedDb s := by
  unfold claimedDb; rw [exts_vs, exts_vs, h1, h3, h4, h5]

theorem linv_congr (s s' : Db) (h1 : vs s' = vs s) (h2 : s'.regions = s.regions) (h3 : s'.reserved = s.reserved)
    (h4 : s'.holes = s.holes) (h5 : s'.pending = s.pending) (h : LInv s) : LInv s' := by
  have hc := claimed_congr h1 h3 h4 h5
  exact ⟨by rw [hc]; exact h.one, by rw [hc]; exact h.pos, by rw [h1, h2]; exact h.reg1, by rw [h1, h2]; exact h.reg2⟩

theorem mem_claimed (s : Db) (e : E) :
    e ∈ claimedDb s ↔ e ∈ exts s.slots ∨ e ∈ s.reserved ∨ e ∈ s.holes ∨ e ∈ s.pending := by
  unfold claimedDb; simp [List.mem_append]

theorem all_claimed (s : Db) (P : E → Prop) :
    (∀ e ∈ claimedDb s, P e) ↔
      (∀ e ∈ exts s.slots, P e) ∧ (∀ e ∈ s.reserved, P e) ∧ (∀ e ∈ s.holes, P e) ∧ (∀ e ∈ s.pending, P e) := by
  unfold claimedDb
  simp only [List.forall_mem_append, and_assoc]

theorem extOf_mem_claimed (s : Db) (j : Nat) (sl : Slot) (hs : s.slot? j = some sl) : extOf sl ∈ claimedDb s :=
  (mem_claimed s _).mpr (Or.inl (extOf_mem_exts hs))

theorem max4_cases (P : Nat → Prop) (a b c d : Nat) (ha : P a) (hb : P b) (hc : P c) (hd : P d) : P (max (max (max a b) c) d) := by
  have max2 : ∀ x y : Nat, P x → P y → P (max x y) := fun x y hx hy => by
    rcases Nat.le_total x y with h | h
    · rw [Nat.max_eq_right h]; exact hy
    · rw [Nat.max_eq_left h]; exact hx
  exact max2 _ _ (max2 _ _ (max2 _ _ ha hb) hc) hd

/-- What `Layout::len()` takes of a list, the end of the entry that starts last, is the end of everything in the list — the list
being part of one that covers no byte twice, an extent that starts earlier ends earlier (`stop_le`) — and it is the end of an
entry unless the list is empty. -/
theorem lastOf_end {c : List E} (ho : One c) (hp : Pos c) (l : List E) (hsub : ∀ a ∈ l, a ∈ c) :
    (∀ e ∈ l, e.1 + e.2 ≤ (match lastOf l with | some (st, r) => st + r | none => 0)) ∧
    ((match lastOf l with | some (st, r) => st + r | none => 0) = 0 ∨
      ∃ e ∈ c, (match lastOf l with | some (st, r) => st + r | none => 0) = e.1 + e.2) := by
  cases hl : lastOf l with
  | none => exact ⟨fun e he => (by rw [lastOf_none l hl] at he; cases he), Or.inl rfl⟩
  | some y =>
    obtain ⟨y1, y2⟩ := lastOf_spec l y hl
    exact ⟨fun e he => stop_le c ho hp e y (hsub e he) (hsub y y1) (y2 e he), Or.inr ⟨y, hsub y y1, rfl⟩⟩

/-- the same for the regions, which `Layout::len()` looks up in the start map: its last entry is a live region, and every region
starts at or before it -/
theorem lastRegion_end (s : Db) (h : LInv s) :
    (∀ e ∈ exts s.slots, e.1 + e.2 ≤ (match lastOf s.regions with | some (st, idx) => st + s.reservedOfIdx idx | none => 0)) ∧
    ((match lastOf s.regions with | some (st, idx) => st + s.reservedOfIdx idx | none => 0) = 0 ∨
      ∃ e ∈ claimedDb s, (match lastOf s.regions with | some (st, idx) => st + s.reservedOfIdx idx | none => 0) = e.1 + e.2) := by
  have hreg : ∀ e ∈ exts s.slots, ∃ idx, (e.1, idx) ∈ s.regions ∧ e ∈ claimedDb s := fun e he => by
    obtain ⟨idx, sl, hs, rfl⟩ := (mem_exts s.slots e).mp he
    have hs' := (slot_iff s idx sl).mpr hs
    exact ⟨idx, h.reg1 idx _ _ (slot_vs hs'), extOf_mem_claimed s idx sl hs'⟩
  cases hl : lastOf s.regions with
  | none =>
    refine ⟨fun e he => ?_, Or.inl rfl⟩
    obtain ⟨idx, hr, _⟩ := hreg e he
    rw [lastOf_none s.regions hl] at hr; cases hr
  | some y =>
    obtain ⟨st, li⟩ := y
    obtain ⟨y1, y2⟩ := lastOf_spec s.regions _ hl
    -- the start map answers with a live slot, and `st + reservedOfIdx li` is the end of its extent
    obtain ⟨r', hv'⟩ := h.reg2 st li y1
    obtain ⟨sl', hs', hst⟩ := (vs_get s li _).mp hv'
    have hres : s.reservedOfIdx li = r' := (reservedOfIdx_eq hs').trans (congrArg Prod.snd hst)
    have hm' : (st, r') ∈ claimedDb s := hst ▸ extOf_mem_claimed s li sl' hs'
    refine ⟨fun e he => ?_, Or.inr ⟨(st, r'), hm', by simp only [hres]⟩⟩
    obtain ⟨idx, hr, hc⟩ := hreg e he
    show _ ≤ st + s.reservedOfIdx li
    rw [hres]
    exact stop_le (claimedDb s) h.one h.pos e (st, r') hc hm' (y2 (e.1, idx) hr)

/-- `Layout::len()` is the end of everything claimed -/
theorem layoutLen_spec (s : Db) (h : LInv s) :
    (∀ e ∈ claimedDb s, e.1 + e.2 ≤ s.layoutLen) ∧ (s.layoutLen = 0 ∨ ∃ e ∈ claimedDb s, s.layoutLen = e.1 + e.2) := by
  have a := lastOf_end h.one h.pos s.reserved (fun e he => (mem_claimed s e).mpr (Or.inr (Or.inl he)))
  have b := lastOf_end h.one h.pos s.holes (fun e he => (mem_claimed s e).mpr (Or.inr (Or.inr (Or.inl he))))
  have c := lastOf_end h.one h.pos s.pending (fun e he => (mem_claimed s e).mpr (Or.inr (Or.inr (Or.inr he))))
  have d := lastRegion_end s h
  unfold Db.layoutLen
  refine ⟨fun e he => ?_, max4_cases (fun n => n = 0 ∨ ∃ e ∈ claimedDb s, n = e.1 + e.2) _ _ _ _ a.2 b.2 c.2 d.2⟩
  rcases (mem_claimed s e).mp he with h1 | h1 | h1 | h1
  · exact Nat.le_trans (d.1 e h1) (Nat.le_max_right _ _)
  · exact Nat.le_trans (a.1 e h1) (Nat.le_trans (Nat.le_max_left _ _) (Nat.le_trans (Nat.le_max_left _ _) (Nat.le_max_left _ _)))
  · exact Nat.le_trans (b.1 e h1) (Nat.le_trans (Nat.le_max_right _ _) (Nat.le_trans (Nat.le_max_left _ _) (Nat.le_max_left _ _)))
  · exact Nat.le_trans (c.1 e h1) (Nat.le_trans (Nat.le_max_right _ _) (Nat.le_max_left _ _))

theorem layoutLen_ge (s : Db) (h : LInv s) (e : E) (he : e ∈ claimedDb s) : e.1 + e.2 ≤ s.layoutLen :=
  (layoutLen_spec s h).1 e he

theorem free_from_len (s : Db) (h : LInv s) (x : Nat) (hx : s.layoutLen ≤ x) : cnt (claimedDb s) x = 0 :=
  cnt_zero_of_stops _ x (fun e he => by have := layoutLen_ge s h e he; omega)

end AnyDB.C02r
